namespace HV.Bridge

/-- The shape of every table bridge: the table `tools/extract_tables.py` wrote (`none` = the extractor no longer
recognised the source: no alarm, the correspondence is then the only tie) is the model's table — or, where the model has no
table of that name (`Bridge/C03`, `C12`, `C13`, `fdwra_accept_ops` of `Bridge/C06`), the constants and comparison operators the
model's definitions use, written out in the bridge file. The hypothesis is closed and holds by unfolding both sides (`rfl`),
whichever of the two cases the regenerated file presents. -/
theorem table_eq {α : Type} {g : Option α} {m : α} (h : g.getD m = m) : g = none ∨ g = some m := by
  cases g with
  | none => exact .inl rfl
  | some a => exact .inr (congrArg some h)

end HV.Bridge
