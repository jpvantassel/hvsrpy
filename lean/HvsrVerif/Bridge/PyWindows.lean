import HvsrVerif.Generated.PyWindows
import HvsrVerif.Bridge.PyCommon
import HvsrVerif.Model.Smoothing
/-! Bridge (C02): the kernels of the six window operators, translated from the inner loop body of each numba kernel of
smoothing.py (`none` = `continue`) = the model's weight functions (shape of the theorems: header of `Bridge/PyCommon.lean`) -/
namespace HV.Bridge
open HV.Generated Classical

theorem py_pow10 (x : ℝ) : pyPow (10 : ℝ) x = pow10A x := by
  simp [pyPow, pow10A]
theorem py_log10 (x : ℝ) : pyLog10 x = log10A x := rfl

/-- tactic for the window bridges: expose both sides over `ℝ`, split the guards, close each leaf -/
macro "window_bridge" defs:Lean.Parser.Tactic.simpLemma,* : tactic =>
  `(tactic| (
    simp only [$defs,*, guard, smoothConsts, py_log10, lit_real, ofNat_real, sqrt_real, sin_real, pi_real, absA_real,
      sinc4, parzenA, neg_div, Nat.cast_ofNat, Nat.cast_one, Nat.cast_zero, pow_zero, div_one]
    try norm_num only [py_pow10, neg_div, neg_one_mul, abs_sub_comm]
    try (split_ifs <;> first | rfl | (exfalso; tauto) | (simp only [Option.some.injEq]; ring_nf))))

theorem py_konno_and_ohmachi_window : Py.konno_and_ohmachi_window.ok = false ∨
    ∀ bw f fc : ℝ, Py.konno_and_ohmachi_window bw f fc = koWeight bw f fc := by
  bridge_cases
    intro bw f fc
    window_bridge Py.konno_and_ohmachi_window, koWeight

theorem py_parzen_window : Py.parzen_window.ok = false ∨
    ∀ bw f fc : ℝ, Py.parzen_window bw f fc = parzenWeight bw f fc := by
  bridge_cases
    intro bw f fc
    window_bridge Py.parzen_window, parzenWeight

theorem py_linear_rectangular_window : Py.linear_rectangular_window.ok = false ∨
    ∀ bw f fc : ℝ, Py.linear_rectangular_window bw f fc = linRectWeight bw f fc := by
  bridge_cases
    intro bw f fc
    window_bridge Py.linear_rectangular_window, linRectWeight

theorem py_linear_triangular_window : Py.linear_triangular_window.ok = false ∨
    ∀ bw f fc : ℝ, Py.linear_triangular_window bw f fc = linTriWeight bw f fc := by
  bridge_cases
    intro bw f fc
    window_bridge Py.linear_triangular_window, linTriWeight

theorem py_log_rectangular_window : Py.log_rectangular_window.ok = false ∨
    ∀ bw f fc : ℝ, Py.log_rectangular_window bw f fc = logRectWeight bw f fc := by
  bridge_cases
    intro bw f fc
    window_bridge Py.log_rectangular_window, logRectWeight

theorem py_log_triangular_window : Py.log_triangular_window.ok = false ∨
    ∀ bw f fc : ℝ, Py.log_triangular_window bw f fc = logTriWeight bw f fc := by
  bridge_cases
    intro bw f fc
    window_bridge Py.log_triangular_window, logTriWeight

end HV.Bridge
