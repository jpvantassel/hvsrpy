import HvsrVerif.Generated.PyFdwra
import HvsrVerif.Bridge.PyCommon
import HvsrVerif.Model.Fdwra
/-! Bridge (C06): the accept decision and the stopping rule translated from the loop of
`window_rejection._frequency_domain_window_rejection`, for real (non-NaN) peak frequency, bounds and statistics; the NaN cases
(`none` in the model) are outside the translated slices. `py_fdwra_keep`: the decision for one window is `optLt lo f && optLt f hi`
— the entry the model's `fdwraKeep` computes for a window with a valid peak at `f` when both bounds are defined (`some lo`, `some hi`),
the comparison of `Props/C06.lean::iter_keeps_iff`. `py_fdwra_stop`: the condition of `Props/C06Spec.lean::iter_stop_rule`. -/
-- linter option: `← ite_and` in `py_fdwra_stop` is the route for a source that nests the two convergence tests, see the header of PyCommon
set_option linter.unusedSimpArgs false
namespace HV.Bridge
open HV.Generated Classical

/-- a window without a valid peak is skipped; otherwise both masks become "strictly inside the bounds" -/
theorem py_fdwra_keep : Py.fdwra_keep.ok = false ∨
    ∀ (valid : Bool) (f lo hi : ℝ),
      Py.fdwra_keep valid f lo hi =
        if valid then some (optLt (some lo) (some f) && optLt (some f) (some hi), optLt (some lo) (some f) && optLt (some f) (some hi))
        else none := by
  bridge_cases
    intro valid f lo hi
    cases valid
    · simp [Py.fdwra_keep]
    · by_cases h1 : lo < f <;> by_cases h2 : f < hi <;> simp [Py.fdwra_keep, optLt, h1, h2]

/-- the iteration returns iff a zero guard fires or both changes are below 0.01 — the condition of `iter_stop_rule`
with `diffB = |mean fn − f_mc|` before and `dA` after the removal; the value returned is the iteration counter -/
theorem py_fdwra_stop : Py.fdwra_stop.ok = false ∨
    ∀ diffB sB sA dA c : ℝ,
      Py.fdwra_stop diffB sB sA dA c =
        if diffB = 0 ∨ sB = 0 ∨ sA = 0 ∨ (|dA - diffB| / diffB < 0.01 ∧ |sA - sB| < 0.01) then some c else none := by
  bridge_cases
    intro diffB sB sA dA c
    -- exits with the same value are merged into one test
    simp only [Py.fdwra_stop, eqA_zero, absA_real, ← ite_or, ← ite_and, decide_eq_true_eq]
    refine if_congr ?_ rfl rfl
    -- the two conditions agree up to the spelling of 0.01, the order and the bracketing of their clauses and the order of the operands of `|a - b|`
    norm_num only [lit_real, ofNat_real, abs_sub_comm, or_assoc, or_comm, or_left_comm, and_comm]

end HV.Bridge
