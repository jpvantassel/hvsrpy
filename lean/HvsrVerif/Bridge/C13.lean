import HvsrVerif.Generated.Tables
import HvsrVerif.Bridge.TableEq
/-! Bridge C13: comparison operators of the two time-domain criteria (codes: 0 `<`, 1 `<=`, 2 `>`, 3 `>=`):
reject when `max ratio > max_limit or min ratio < min_limit`; keep when `maximum < threshold`. -/
namespace HV.Bridge
theorem stalta_ops : Generated.staLtaOps = none ∨ Generated.staLtaOps = some (2, 0) := table_eq rfl
theorem maxvalue_op : Generated.maxValueOp = none ∨ Generated.maxValueOp = some 0 := table_eq rfl
end HV.Bridge
