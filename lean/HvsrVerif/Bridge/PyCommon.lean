import HvsrVerif.PyPrim
import HvsrVerif.Proofs.RealInst
import HvsrVerif.Model.Combine
import Mathlib.Tactic.Ring
import Mathlib.Tactic.FieldSimp
import Mathlib.Tactic.Linarith
/-!
# Bridge between the definitions translated from the Python source and the hand-written model (shared part)

`Generated/Py*.lean` are written by `tools/py2lean.py` from the *current* Python source on every run. Each theorem
of `Bridge/Py*.lean` says: either the translator could not handle the source any more (`NAME.ok = false`; then the
differential correspondence is the only tie for that function), or the translated function equals — for **all real
arguments** — the model function that the property theorems of `Props/` are about. A change of a formula in the Python
source therefore changes the statement that has to be proved; the proofs are written to survive algebraically
equivalent rewrites (`ring_nf`), not only textually identical ones.

Where a translated slice takes as arguments values that the model computes itself (the length of a series, the extremes of a
list of ratios, a count), the tie is stated in two theorems: `py_X : X.ok = false ∨ ∀ args, Generated.X args = E args` with `E`
written out over ℝ / ℤ, and `py_X_model` (`cheng_step_model` for `py_cheng_weights_step`), which says under hypotheses naming
the model's values for those arguments that the same text `E` is (or, in `cheng_step_model`, is what decides) the model's function.
No composed theorem is stated; they compose as `(of_ok py_X rfl _).trans (py_X_model _)`, resp. `rw [of_ok py_cheng_weights_step rfl]`
where `E` stands inside the right-hand side.

Steps that do nothing on the present source (the tail of `py_arith`, a `split_ifs <;> py_logic` after a `norm_num` that already closed
the goal, a simp lemma for a clause order the source does not have) are the routes for a rewritten source; the files that carry them
switch off the linters that would report them.
-/
namespace HV.Bridge
open Classical

/-- closes `ok = false ∨ ∀ …` goals: try the trivial disjunct first -/
macro "bridge_cases" t:tacticSeq : tactic =>
  `(tactic| first | (left; rfl) | (right; ($t)))

/-- expose the real-number meaning of literals and primitives, then normalise both sides as ring expressions -/
macro "py_arith" : tactic =>
  `(tactic| (
    all_goals (try simp only [lit_real, ofNat_real, sqrt_real, log_real, exp_real, sin_real, cos_real, pi_real, pySquare, pyHypot,
      pyMaximum, pyMinimum, Nat.cast_ofNat, Nat.cast_one, Nat.cast_zero])
    all_goals (first | rfl | (ring_nf; done) | (norm_num; done) | (norm_num; ring_nf; done) | (congr 1; ring_nf; done))))

/-- leaf of a case split on comparisons: propositional reasoning after normalising the arithmetic atoms -/
macro "py_logic" : tactic =>
  `(tactic| first
    | rfl
    | (exfalso; linarith)
    | (exfalso; tauto)
    | (simp_all; done)
    | (ring_nf at *; tauto)
    | (ring_nf at *; simp_all; done)
    | (exfalso; simp_all; linarith)
    | (simp only [abs_sub_comm] at *; tauto)
    | (simp_all [abs_sub_comm]; done))

/-- the statement of a bridge theorem whose flag is set. In the second branch of `bridge_cases` every flag of the goal's conjunction is `true`
(the first branch would have closed the goal otherwise), so an earlier bridge theorem is used as `of_ok py_X rfl`. -/
theorem of_ok {b : Bool} {P : Prop} (h : b = false ∨ P) (hb : b = true) : P :=
  h.resolve_left (by rw [hb]; exact Bool.noConfusion)

theorem py_radians (d : ℝ) : pyRadians d = radians d := rfl

theorem ofInt_real' (i : ℤ) : (ofInt i : ℝ) = (i : ℝ) := ofInt_real i

theorem py_floordiv (x y : ℝ) : pyFloorDiv x y = ((⌊x / y⌋ : ℤ) : ℝ) := by
  unfold pyFloorDiv
  rw [ofInt_real, floor_real]

end HV.Bridge
