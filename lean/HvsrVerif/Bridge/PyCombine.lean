import HvsrVerif.Generated.PyCombine
import HvsrVerif.Bridge.PyCommon
/-! Bridge: the functions of `COMBINE_HORIZONTAL_REGISTER` translated from processing.py = `Combine.apply` (see `Bridge/PyCommon.lean`) -/
-- linter options: `py_arith` and the `try …` tail are fallbacks for a rewritten source (header of `Bridge/PyCommon.lean`)
set_option linter.unusedSimpArgs false
set_option linter.unusedTactic false
set_option linter.unreachableTactic false
namespace HV.Bridge
open HV.Generated Classical

theorem py_arithmetic_mean : Py.arithmetic_mean.ok = false ∨
    ∀ ns ew : ℝ, Py.arithmetic_mean ns ew = Combine.apply .arithmeticMean ns ew := by
  bridge_cases
    intro ns ew
    simp only [Py.arithmetic_mean, Combine.apply]
    py_arith

theorem py_squared_average : Py.squared_average.ok = false ∨
    ∀ ns ew : ℝ, Py.squared_average ns ew = Combine.apply .squaredAverage ns ew := by
  bridge_cases
    intro ns ew
    simp only [Py.squared_average, Combine.apply]
    py_arith

theorem py_geometric_mean : Py.geometric_mean.ok = false ∨
    ∀ ns ew : ℝ, Py.geometric_mean ns ew = Combine.apply .geometricMean ns ew := by
  bridge_cases
    intro ns ew
    simp only [Py.geometric_mean, Combine.apply]
    py_arith

theorem py_total_horizontal_energy : Py.total_horizontal_energy.ok = false ∨
    ∀ ns ew : ℝ, Py.total_horizontal_energy ns ew = Combine.apply .totalHorizontalEnergy ns ew := by
  bridge_cases
    intro ns ew
    simp only [Py.total_horizontal_energy, Combine.apply]
    py_arith

theorem py_maximum_horizontal_value : Py.maximum_horizontal_value.ok = false ∨
    ∀ ns ew : ℝ, Py.maximum_horizontal_value ns ew = Combine.apply .maximumHorizontalValue ns ew := by
  bridge_cases
    intro ns ew
    simp only [Py.maximum_horizontal_value, Combine.apply, pyMaximum]
    try (split_ifs <;> first | rfl | (exfalso; linarith) | linarith)

end HV.Bridge
