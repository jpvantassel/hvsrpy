import HvsrVerif.Generated.PyObjectIO
import HvsrVerif.Bridge.PyCommon
/-! Bridge: the statement of the azimuthal reader that decides where a new azimuth block starts, translated from the loop of
`object_io.read_hvsr_object_from_file` on every run, in closed form (repair of C12-d): a column starts a new block iff its
azimuth label differs from the previous column's or its curve number is one (and it is not the first column). That this is
the criterion of the model's `groupNumbered` (`Model/ObjectIO.lean`: `if a = b ∧ j ≠ 1` merges a column into the block of its
neighbour) is seen by reading the two side by side: no theorem here mentions `groupNumbered`. -/
namespace HV.Bridge
open HV.Generated Classical

/-- what the loop body does with `start_idx` and `prev_azimuth` for the column `idx` (label `cur`, curve number `k`) -/
theorem py_reader_block_start : Py.reader_block_start.ok = false ∨
    ∀ (cur prev : String) (k idx start : Int),
      Py.reader_block_start (α := ℝ) cur prev k idx start =
        if cur ≠ prev ∨ (k = 1 ∧ 1 < idx) then (idx, cur) else (start, prev) := by
  bridge_cases
    intro cur prev k idx start
    simp only [Py.reader_block_start]
    split_ifs <;> simp_all

/-- for every column after the first, the loop body returns `(idx, cur)` (a new block starts here) exactly when the column is
NOT merged, `¬ (prev = cur ∧ k ≠ 1)` -- textually the negation of `groupNumbered`'s merge condition `a = b ∧ j ≠ 1` -- or in
the degenerate case that the pair it keeps when merging, `(start, prev)`, happens to be `(idx, cur)` already -/
theorem py_reader_block_start_is_groupNumbered : Py.reader_block_start.ok = false ∨
    ∀ (cur prev : String) (k idx start : Int), 1 < idx →
      ((Py.reader_block_start (α := ℝ) cur prev k idx start = (idx, cur)) ↔ (¬ (prev = cur ∧ k ≠ 1) ∨ (start = idx ∧ prev = cur))) := by
  refine py_reader_block_start.imp_right fun h cur prev k idx start hidx => ?_
  rw [h]
  split_ifs with c
  · simp only [true_iff]; grind
  · simp only [Prod.mk.injEq]; grind

end HV.Bridge
