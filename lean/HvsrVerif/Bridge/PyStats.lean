import HvsrVerif.Generated.PyStats
import HvsrVerif.Bridge.PyCommon
import HvsrVerif.Model.Stats
/-! Bridge (C05, C11): distribution transforms and `_nth_std_factory` translated from statistics.py = `Dist.pre`/`Dist.postMean`/`nthStd` (shape of the theorems: header of `Bridge/PyCommon.lean`) -/
namespace HV.Bridge
open HV.Generated Classical

/-- all four entries of `PRE_PROCESS_FUNCTION_MAP`: the `"std"` pair is the same two functions as the `"mean"` pair -/
theorem py_pre_mean : (Py.pre_normal_mean.ok && Py.pre_lognormal_mean.ok && Py.pre_normal_std.ok && Py.pre_lognormal_std.ok) = false ∨
    ∀ x : ℝ, Py.pre_normal_mean x = Dist.pre .normal x ∧ Py.pre_lognormal_mean x = Dist.pre .lognormal x ∧
             Py.pre_normal_std x = Dist.pre .normal x ∧ Py.pre_lognormal_std x = Dist.pre .lognormal x := by
  bridge_cases
    intro x
    simp only [Py.pre_normal_mean, Py.pre_lognormal_mean, Py.pre_normal_std, Py.pre_lognormal_std, Dist.pre, log_real, and_self]

/-- the post-processing of the mean is `exp` for lognormal, the identity otherwise; the standard deviation is returned
as computed (log-standard deviation for lognormal) -/
theorem py_post : (Py.post_normal_mean.ok && Py.post_lognormal_mean.ok && Py.post_normal_std.ok && Py.post_lognormal_std.ok) = false ∨
    ∀ x : ℝ, Py.post_normal_mean x = Dist.postMean .normal x ∧ Py.post_lognormal_mean x = Dist.postMean .lognormal x ∧
             Py.post_normal_std x = x ∧ Py.post_lognormal_std x = x := by
  bridge_cases
    intro x
    simp only [Py.post_normal_mean, Py.post_lognormal_mean, Py.post_normal_std, Py.post_lognormal_std, Dist.postMean, exp_real, and_self]

theorem lookup_mem_values {k c : String} {l : List (String × String)} (h : List.lookup k l = some c) : c ∈ l.map Prod.snd := by
  obtain ⟨l₁, l₂, rfl, -⟩ := List.lookup_eq_some_iff.mp h
  exact List.mem_map.mpr ⟨(k, c), List.mem_append_right _ List.mem_cons_self, rfl⟩

/-- the two questions the translated code asks of the alias table of constants.py (`DISTRIBUTION_MAP[name]` against the canonical
strings) are the model's `Dist.ofString name` -/
theorem lookup_distributionMap_iff (name : String) :
    (List.lookup name distributionMap = some "normal" ↔ Dist.ofString name = some .normal) ∧
    (List.lookup name distributionMap = some "lognormal" ↔ Dist.ofString name = some .lognormal) := by
  unfold Dist.ofString
  split
  next h => simp [h]
  next h => simp [h]
  next h1 h2 => exact ⟨⟨fun h => (h2 h).elim, nofun⟩, ⟨fun h => (h1 h).elim, nofun⟩⟩

/-- `_nth_std_factory` with the alias table of constants.py: for every name that the table maps to a distribution the
result is the model's `nthStd`; any other name raises -/
theorem py_nth_std_factory : Py.nth_std_factory.ok = false ∨
    ∀ (n mean std : ℝ) (name : String),
      Py.nth_std_factory distributionMap n name mean std = (Dist.ofString name).map (fun d => nthStd n d mean std) := by
  bridge_cases
    intro n mean std name
    simp only [Py.nth_std_factory, lookup_distributionMap_iff]
    rcases Dist.ofString name with _ | _ | _ <;> simp [nthStd]

end HV.Bridge
