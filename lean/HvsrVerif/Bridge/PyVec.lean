import HvsrVerif.Generated.PyVec
import HvsrVerif.Bridge.PyStats
import HvsrVerif.Proofs.StatsLemmas
import HvsrVerif.Model.HvState
import HvsrVerif.Model.HvAz
/-!
# Bridge: the nan-aware weighted mean / standard deviation translated from `hvsrpy/statistics.py` = `nanmeanW` / `nanstdW`

`Generated/PyVec.lean` is rewritten by `tools/py2lean_vec.py` from the Python source of `_nanmean_weighted` and
`_nanstd_weighted` (with `_distribution_factory` and the two dicts of lambdas inlined) on every run. The theorems below say:
for every distribution name, every array of values (NaN = `none`) and every weights argument (`None` or an array), the
translated function raises exactly when the name is not an alias of the table, and otherwise returns the model's
`nanmeanW` / `nanstdW` — the functions every statistic theorem of C05 / C11 (and the FDWRA bounds of C06) is about.

The proofs go in two steps. `nanmean_weighted_dist` / `nanstd_weighted_dist` resolve the name (`lookup_distributionMap_iff`: the tests of the code on
the alias table are the model's `Dist.ofString`): the translated function is the code for one `Dist` (`pyPre`, `pyWeights`, `pyMeanPre`,
`pyTail` …). Each of these pieces is then the model's by a lemma of its own, through the normal forms of the array primitives
(`nansum_zipWith`, `count_not_nan`, `default_weights_eq`) and the model's equation `nanstdW_eq` (mean, then `stdTail`).
-/
namespace HV.Bridge
open HV.Generated HV.PyV Classical

/-! ## the array primitives in terms of the model's list functions -/

theorem divO_ofNat_zero (a : ℝ) : divO a (n# 0) = none := by rw [divO_real]; simp
theorem divO_ofNat_succ (a : ℝ) (k : ℕ) : divO a (n# (k + 1)) = some (a / n# (k + 1)) := by
  rw [divO_real, if_neg]; rw [ofNat_real]; exact Nat.cast_ne_zero.mpr k.succ_ne_zero

theorem odiv_some (a b : ℝ) : odiv (some a) (some b) = divO a b := rfl

/-- `np.nansum` of an element-wise product of two arrays, for any NaN-propagating product `g` -/
theorem nansum_zipWith (g : Option ℝ → Option ℝ → Option ℝ) (f : ℝ → ℝ → ℝ) (hg : ∀ x y, g x y = lift2 f x y)
    (a b : List (Option ℝ)) : nansum (List.zipWith g a b) = some (nansumProd a b f) := by
  have : g = lift2 f := funext fun x => funext (hg x)
  subst this
  unfold nansum nansumProd
  rw [← List.map_uncurry_zip_eq_zipWith, List.filterMap_map]
  rfl

theorem nansum_prod (a b : List (Option ℝ)) : nansum (vv omul a b) = some (nansumProd a b (fun v w => v * w)) :=
  nansum_zipWith _ _ (fun _ _ => rfl) a b

theorem nansum_dev (ws pv : List (Option ℝ)) (m : ℝ) :
    nansum (vv omul ws (vsq (vn osub pv (some m)))) = some (nansumProd pv ws (fun v w => w * ((v - m) * (v - m)))) := by
  unfold vv vsq vn
  rw [List.map_map, List.zipWith_map_right, List.zipWith_comm]
  exact nansum_zipWith _ _ (fun x y => by cases x <;> cases y <;> rfl) pv ws

theorem nansum_w (ws : List (Option ℝ)) : nansum ws = some (nansumW ws) := rfl

theorem nansum_sq (ws : List (Option ℝ)) : nansum (vsq ws) = some (sumA ((ws.filterMap id).map (fun w => w * w))) := by
  unfold nansum vsq
  rw [List.filterMap_map, ← List.filterMap_eq_map, List.filterMap_filterMap]
  congr 3
  funext x
  cases x <;> rfl

theorem count_not_nan (ws : List (Option ℝ)) :
    (bcount (bnot (isnan ws)) : Option ℝ) = some (n# (ws.filterMap id).length) := by
  unfold bcount bnot isnan
  congr 2
  induction ws with
  | nil => rfl
  | cons x xs ih => cases x <;> simpa using ih

theorem default_weights_eq (v : List (Option ℝ)) :
    maskSet (fullLike v (onat 1)) (isnan v) none = defaultWeights v := by
  unfold maskSet fullLike isnan defaultWeights
  rw [List.zipWith_map_left, List.zipWith_map_right, List.zipWith_self]
  apply List.map_congr_left
  intro x _
  cases x <;> rfl

theorem vmap_eq (f : ℝ → ℝ) (v : List (Option ℝ)) : vmap f v = v.map (fun x => x.map f) := rfl

theorem map_id_opt (v : List (Option ℝ)) : v.map (fun x => x.map (fun y => y)) = v :=
  List.map_id'' (fun x => by cases x <;> rfl) v

theorem count_real (ws : List (Option ℝ)) : (bcount (bnot (isnan ws)) : Option ℝ) = some (((ws.filterMap id).length : ℕ) : ℝ) := by
  rw [count_not_nan]; simp only [ofNat_real]

/-! ## `_nanmean_weighted` -/

/-- the model's weights argument (`None` or an array without NaN) as the translated code takes it -/
def wArg (w : Option (List ℝ)) : Option (List (Option ℝ)) := w.map (fun l => l.map some)

/-- `values` after `PRE_PROCESS_FUNCTION_MAP` -/
noncomputable def pyPre : Dist → List (Option ℝ) → List (Option ℝ)
  | .normal, v => v
  | .lognormal, v => vmap Transc.log v

theorem pyPre_eq (d : Dist) (v : List (Option ℝ)) : pyPre d v = v.map (·.map d.pre) := by
  cases d
  · exact (map_id_opt v).symm
  · rfl

/-- the weights array the code works with -/
noncomputable def pyWeights (pv : List (Option ℝ)) : Option (List (Option ℝ)) → List (Option ℝ)
  | none => maskSet (fullLike pv (onat 1)) (isnan pv) none
  | some w => w

theorem pyWeights_eq (pv : List (Option ℝ)) (w : Option (List ℝ)) : pyWeights pv (wArg w) = wsOf pv w := by
  cases w
  · exact default_weights_eq pv
  · rfl

/-- `weighted_mean` of `_nanmean_weighted`, before the post-processing -/
noncomputable def pyMeanPre (d : Dist) (vals : List (Option ℝ)) (w : Option (List (Option ℝ))) : Option ℝ :=
  odiv (nansum (vv omul (pyPre d vals) (pyWeights (pyPre d vals) w))) (nansum (pyWeights (pyPre d vals) w))

theorem pyMeanPre_eq (d : Dist) (vals : List (Option ℝ)) (w : Option (List ℝ)) : pyMeanPre d vals (wArg w) = nanmeanPre d vals w := by
  unfold pyMeanPre
  rw [pyWeights_eq, nansum_prod, nansum_w, odiv_some, pyPre_eq, nanmeanPre_eq]

/-- `POST_PROCESS_FUNCTION_MAP["mean"]` on a possibly-NaN scalar -/
noncomputable def pyPost : Dist → Option ℝ → Option ℝ
  | .normal, x => x
  | .lognormal, x => omap Transc.exp x

theorem pyPost_eq (d : Dist) (x : Option ℝ) : pyPost d x = x.map d.postMean := by
  cases d
  · exact Option.map_id'.symm
  · rfl

/-- the translated `_nanmean_weighted` once the name is resolved -/
theorem nanmean_weighted_dist : PyVec.nanmean_weighted.ok = false ∨
    ∀ (name : String) (vals : List (Option ℝ)) (w : Option (List (Option ℝ))),
      PyVec.nanmean_weighted distributionMap name vals w =
        (Dist.ofString (pyLower name)).map fun d => pyPost d (pyMeanPre d vals w) := by
  bridge_cases
    intro name vals w
    -- one outcome of `Dist.ofString` at a time: `lookup_distributionMap_iff` and `h` decide every test of the code on the alias table, the `if`s
    -- collapse, and what is left is the definition of `pyPre` … `pyPost` at that `Dist` (`rfl` for either form of the weights)
    rcases h : Dist.ofString (pyLower name) with _ | _ | _ <;>
      simp only [PyVec.nanmean_weighted, lookup_distributionMap_iff, h, reduceCtorEq, Option.some.injEq, or_self, or_true, true_or, not_true_eq_false,
        not_false_eq_true, if_false, if_true, Option.map_none, Option.map_some] <;> cases w <;> rfl

/-- `_nanmean_weighted(distribution, values, weights)`: raises for a name the alias table does not know; otherwise the model's
weighted mean (`none` = NaN). Holds for every array and every weights argument. -/
theorem py_nanmean_weighted : PyVec.nanmean_weighted.ok = false ∨
    ∀ (name : String) (vals : List (Option ℝ)) (w : Option (List ℝ)),
      PyVec.nanmean_weighted distributionMap name vals (wArg w)
        = (Dist.ofString (pyLower name)).map (fun d => nanmeanW d vals w) := by
  bridge_cases
    intro name vals w
    simp only [of_ok nanmean_weighted_dist rfl, pyPost_eq, pyMeanPre_eq, nanmeanW]

/-! ## `_nanstd_weighted` -/

/-- the `denominator` argument -/
def denName : Denom → String
  | .nist => "nist"
  | .cheng => "cheng"

/-- the mean as `_nanstd_weighted` uses it: `log(exp(m))` for the lognormal distribution -/
noncomputable def pyMeanBack : Dist → Option ℝ → Option ℝ
  | .normal, x => x
  | .lognormal, x => omap Transc.log (omap Transc.exp x)

theorem pyMeanBack_none (d : Dist) : pyMeanBack d none = none := by cases d <;> rfl

theorem pyMeanBack_some (d : Dist) (m : ℝ) :
    pyMeanBack d (some m) = some (match d with | .normal => m | .lognormal => Transc.log (Transc.exp m)) := by cases d <;> rfl

/-- the part of `_nanstd_weighted` after the mean: numerator, the denominator chosen by `denominator`, square root -/
noncomputable def pyTail (pv ws : List (Option ℝ)) (mean : Option ℝ) (den : String) : Option (Option ℝ) :=
  let num := nansum (vv omul ws (vsq (vn osub pv mean)))
  if den = "nist" then
    some (omap Transc.sqrt (odiv num (omul (osub (onat 1) (odiv (onat 1) (bcount (bnot (isnan ws))))) (nansum ws))))
  else if den = "cheng" then some (omap Transc.sqrt (odiv num (osub (onat 1) (nansum (vsq ws)))))
  else none

/-- the translated `_nanstd_weighted` once the name is resolved -/
theorem nanstd_weighted_dist : PyVec.nanstd_weighted.ok = false ∨
    ∀ (name : String) (vals : List (Option ℝ)) (w : Option (List (Option ℝ))) (den : String),
      PyVec.nanstd_weighted distributionMap name vals w den =
        (Dist.ofString (pyLower name)).bind fun d =>
          pyTail (pyPre d vals) (pyWeights (pyPre d vals) w) (pyMeanBack d (pyMeanPre d vals w)) den := by
  bridge_cases
    intro name vals w den
    -- as in `nanmean_weighted_dist`
    rcases h : Dist.ofString (pyLower name) with _ | _ | _ <;>
      simp only [PyVec.nanstd_weighted, lookup_distributionMap_iff, h, reduceCtorEq, Option.some.injEq, or_self, or_true, true_or, not_true_eq_false,
        not_false_eq_true, if_false, if_true, Option.bind_none, Option.bind_some, ite_self] <;> cases w <;> rfl

theorem pyTail_some (pv ws : List (Option ℝ)) (m : ℝ) (den : Denom) :
    pyTail pv ws (some m) (denName den) = some (stdTail pv ws m den) := by
  cases den
  · simp only [pyTail, denName, if_true, nansum_dev, count_not_nan, onat, odiv_some, stdTail]
    rw [nansum_w]
    cases (ws.filterMap id).length with
    | zero => rw [divO_ofNat_zero]; rfl
    | succ k => rw [divO_ofNat_succ]; rfl
  · simp only [pyTail, denName, String.reduceEq, if_false, if_true, nansum_dev, nansum_sq, onat, stdTail]
    rfl

/-- with an undefined mean the `nist` denominator is zero or undefined: the result is NaN -/
theorem pyTail_none_nist (pv ws : List (Option ℝ)) (h0 : nansumW ws = 0) : pyTail pv ws none "nist" = some none := by
  simp only [pyTail, if_true, count_not_nan, nansum_w, onat, odiv_some, h0]
  cases (ws.filterMap id).length with
  | zero => rw [divO_ofNat_zero]; rfl
  | succ k =>
    rw [divO_ofNat_succ]
    simp only [osub, omul, lift2, mul_zero, odiv_some, divO_real, if_true]
    rfl

/-- `_nanstd_weighted(distribution, values, weights, denominator=...)`: raises for an unknown distribution name; otherwise the
model's weighted standard deviation (`none` = NaN) — for the `nist` denominator always, for the `cheng` denominator whenever the
weighted mean is defined (with an undefined mean — all values NaN, or explicit weights summing to zero — numpy's `nansum` of an
all-NaN array is 0 and the code returns `sqrt(0 / (1 - Σw²))` where the model says "undefined"; hvsrpy never calls it so: Cheng
weights sum to one, `Props/C11.weights_sum_one`). -/
theorem py_nanstd_weighted : PyVec.nanstd_weighted.ok = false ∨
    ∀ (name : String) (vals : List (Option ℝ)) (w : Option (List ℝ)) (den : Denom),
      (den = .nist ∨ ∀ d, Dist.ofString (pyLower name) = some d → nanmeanW d vals w ≠ none) →
      PyVec.nanstd_weighted distributionMap name vals (wArg w) (denName den)
        = (Dist.ofString (pyLower name)).map (fun d => nanstdW d vals w den) := by
  bridge_cases
    intro name vals w den hyp
    rw [of_ok nanstd_weighted_dist rfl]
    cases hd : Dist.ofString (pyLower name) with
    | none => rfl
    | some d =>
      rw [Option.bind_some, Option.map_some, pyMeanPre_eq, pyWeights_eq, pyPre_eq, nanstdW_eq]
      cases hm : nanmeanPre d vals w with
      | none =>
        rcases hyp with rfl | hyp
        · rw [pyMeanBack_none, Option.bind_none]
          exact pyTail_none_nist _ _ ((divO_none_iff _ _).mp ((nanmeanPre_eq d vals w).symm.trans hm))
        · exact absurd (by rw [nanmeanW, hm]; rfl) (hyp d hd)
      | some m => rw [pyMeanBack_some]; exact pyTail_some _ _ _ den

/-- any other `denominator` string raises (after the distribution check) -/
theorem py_nanstd_weighted_bad_denominator : PyVec.nanstd_weighted.ok = false ∨
    ∀ (name : String) (vals : List (Option ℝ)) (w : Option (List ℝ)) (s : String), s ≠ "nist" → s ≠ "cheng" →
      PyVec.nanstd_weighted distributionMap name vals (wArg w) s = none := by
  bridge_cases
    intro name vals w s h1 h2
    rw [of_ok nanstd_weighted_dist rfl]
    cases Dist.ofString (pyLower name) with
    | none => rfl
    | some d => simp only [Option.bind_some, pyTail, if_neg h1, if_neg h2]

/-! ## the accessor layer of `HvsrTraditional`: which array and which mask feed the estimator

The translator inlines the callee, so each accessor is `_nanmean_weighted` / `_nanstd_weighted` at its arguments by unfolding, and the
frequency and the amplitude accessor have the same body: `⟨h, h⟩` below is checked that way. -/

/-- `HvsrTraditional.mean_fn_frequency` / `mean_fn_amplitude` (method body, the property `peak_frequencies` / `peak_amplitudes` and the imported
`_nanmean_weighted` inlined): the unweighted nan-aware mean of the stored peak values **at the positions of the valid-peak mask** -/
theorem py_trad_mean_fn : (PyVec.trad_mean_fn_frequency.ok && PyVec.trad_mean_fn_amplitude.ok && PyVec.nanmean_weighted.ok) = false ∨
    ∀ (name : String) (stored : List (Option ℝ)) (vPeak : List Bool),
      PyVec.trad_mean_fn_frequency distributionMap name stored vPeak = (Dist.ofString (pyLower name)).map (fun d => nanmeanW d (maskSel stored vPeak) none) ∧
      PyVec.trad_mean_fn_amplitude distributionMap name stored vPeak = (Dist.ofString (pyLower name)).map (fun d => nanmeanW d (maskSel stored vPeak) none) := by
  bridge_cases
    intro name stored vPeak
    have h := of_ok py_nanmean_weighted rfl name (select stored vPeak) none
    exact ⟨h, h⟩

/-- `HvsrTraditional.std_fn_frequency` / `std_fn_amplitude`: the sample standard deviation (NIST denominator = n−1) of the same selection -/
theorem py_trad_std_fn : (PyVec.trad_std_fn_frequency.ok && PyVec.trad_std_fn_amplitude.ok && PyVec.nanstd_weighted.ok) = false ∨
    ∀ (name : String) (stored : List (Option ℝ)) (vPeak : List Bool),
      PyVec.trad_std_fn_frequency distributionMap name stored vPeak = (Dist.ofString (pyLower name)).map (fun d => nanstdW d (maskSel stored vPeak) none .nist) ∧
      PyVec.trad_std_fn_amplitude distributionMap name stored vPeak = (Dist.ofString (pyLower name)).map (fun d => nanstdW d (maskSel stored vPeak) none .nist) := by
  bridge_cases
    intro name stored vPeak
    have h := of_ok py_nanstd_weighted rfl name (select stored vPeak) none .nist (Or.inl rfl)
    exact ⟨h, h⟩

/-- in terms of the object model (`Model/HvState.lean`): on every state `s` of a traditional result the four translated accessors, fed with the
stored peak arrays and the valid-peak mask of `s`, return the model's `meanFn` / `stdFn` / `meanAmp` / `stdAmp` — the functions the theorems of
`Props/C05.lean` (estimators, restriction to the accepted windows, reciprocity) are about -/
theorem py_trad_stats_state : (PyVec.trad_mean_fn_frequency.ok && PyVec.trad_mean_fn_amplitude.ok && PyVec.nanmean_weighted.ok &&
      PyVec.trad_std_fn_frequency.ok && PyVec.trad_std_fn_amplitude.ok && PyVec.nanstd_weighted.ok) = false ∨
    ∀ (name : String) (s : HvTrad ℝ),
      PyVec.trad_mean_fn_frequency distributionMap name (s.peaks.map (fun p => p.map (·.1))) s.vPeak = (Dist.ofString (pyLower name)).map (fun d => s.meanFn d) ∧
      PyVec.trad_mean_fn_amplitude distributionMap name (s.peaks.map (fun p => p.map (·.2))) s.vPeak = (Dist.ofString (pyLower name)).map (fun d => s.meanAmp d) ∧
      PyVec.trad_std_fn_frequency distributionMap name (s.peaks.map (fun p => p.map (·.1))) s.vPeak = (Dist.ofString (pyLower name)).map (fun d => s.stdFn d) ∧
      PyVec.trad_std_fn_amplitude distributionMap name (s.peaks.map (fun p => p.map (·.2))) s.vPeak = (Dist.ofString (pyLower name)).map (fun d => s.stdAmp d) := by
  bridge_cases
    intro name s
    have hm := of_ok py_trad_mean_fn rfl name
    have hs := of_ok py_trad_std_fn rfl name
    exact ⟨(hm _ _).1, (hm _ _).2, (hs _ _).1, (hs _ _).2⟩

/-! ## the accessor layer of `HvsrAzimuthal` (Cheng et al. 2020): pooled values and weights are inputs -/

/-- `HvsrAzimuthal.mean_fn_frequency` / `mean_fn_amplitude`: the weighted nan-aware mean of the pooled peak values with the statistical weights -/
theorem py_az_mean_fn : (PyVec.az_mean_fn_frequency.ok && PyVec.az_mean_fn_amplitude.ok && PyVec.nanmean_weighted.ok) = false ∨
    ∀ (name : String) (vals : List (Option ℝ)) (w : List ℝ),
      PyVec.az_mean_fn_frequency distributionMap name vals (w.map some) = (Dist.ofString (pyLower name)).map (fun d => nanmeanW d vals (some w)) ∧
      PyVec.az_mean_fn_amplitude distributionMap name vals (w.map some) = (Dist.ofString (pyLower name)).map (fun d => nanmeanW d vals (some w)) := by
  bridge_cases
    intro name vals w
    have h := of_ok py_nanmean_weighted rfl name vals (some w)
    exact ⟨h, h⟩

/-- `HvsrAzimuthal.std_fn_frequency` / `std_fn_amplitude`: the weighted standard deviation with the **Cheng** denominator `1 − Σw²` (whenever the
weighted mean is defined, see `py_nanstd_weighted`) -/
theorem py_az_std_fn : (PyVec.az_std_fn_frequency.ok && PyVec.az_std_fn_amplitude.ok && PyVec.nanstd_weighted.ok) = false ∨
    ∀ (name : String) (vals : List (Option ℝ)) (w : List ℝ),
      (∀ d, Dist.ofString (pyLower name) = some d → nanmeanW d vals (some w) ≠ none) →
      PyVec.az_std_fn_frequency distributionMap name vals (w.map some) = (Dist.ofString (pyLower name)).map (fun d => nanstdW d vals (some w) .cheng) ∧
      PyVec.az_std_fn_amplitude distributionMap name vals (w.map some) = (Dist.ofString (pyLower name)).map (fun d => nanstdW d vals (some w) .cheng) := by
  bridge_cases
    intro name vals w hyp
    have h := of_ok py_nanstd_weighted rfl name vals (some w) .cheng (Or.inr hyp)
    exact ⟨h, h⟩

/-- in terms of the object model (`Model/HvAz.lean`): on every azimuthal state whose Cheng weights exist (`s.weights = .ok w`: no azimuth without a valid
peak), the translated mean accessors fed with the pooled peaks and those weights return the model's `HvAz.meanFn` / `meanAmp` -/
theorem py_az_mean_state : (PyVec.az_mean_fn_frequency.ok && PyVec.az_mean_fn_amplitude.ok && PyVec.nanmean_weighted.ok) = false ∨
    ∀ (name : String) (s : HvAz ℝ) (w : List ℝ) (d : Dist), s.weights = .ok w → Dist.ofString (pyLower name) = some d →
      (PyVec.az_mean_fn_frequency distributionMap name s.peakFreqs (w.map some)).map Except.ok = some (s.meanFn d) ∧
      (PyVec.az_mean_fn_amplitude distributionMap name s.peakAmps (w.map some)).map Except.ok = some (s.meanAmp d) := by
  bridge_cases
    intro name s w d hw hd
    have h := of_ok py_az_mean_fn rfl name
    rw [(h _ w).1, (h _ w).2, hd, HvAz.meanFn, HvAz.meanAmp, hw]
    exact ⟨rfl, rfl⟩

/-! ## mean ± n standard deviations of a traditional result (the rejection bounds of the frequency-domain algorithm) -/

/-- the closing step `_nth_std_factory(n, distribution, mean, std)` on possibly-NaN scalars -/
noncomputable def factoryO (dm : List (String × String)) (n : Option ℝ) (name : String) (m s : Option ℝ) : Option (Option ℝ) :=
  if List.lookup name dm = some "normal" then some (oadd m (omul n s))
  else if List.lookup name dm = some "lognormal" then some (omap Transc.exp (oadd (omap Transc.log m) (omul n s)))
  else none

/-- `nth_std_fn_frequency(n, distribution)` is the composition the source shows: the mean accessor, the standard-deviation accessor (each may raise), then
the factory -/
theorem py_trad_nth_decomp : (PyVec.trad_nth_std_fn_frequency.ok && PyVec.trad_nth_std_fn_amplitude.ok && PyVec.trad_mean_fn_frequency.ok &&
      PyVec.trad_mean_fn_amplitude.ok && PyVec.trad_std_fn_frequency.ok && PyVec.trad_std_fn_amplitude.ok) = false ∨
    ∀ (n : Option ℝ) (name : String) (stored : List (Option ℝ)) (vPeak : List Bool),
      PyVec.trad_nth_std_fn_frequency distributionMap n name stored vPeak =
        (match PyVec.trad_mean_fn_frequency distributionMap name stored vPeak, PyVec.trad_std_fn_frequency distributionMap name stored vPeak with
          | some m, some s => factoryO distributionMap n name m s
          | _, _ => none) ∧
      PyVec.trad_nth_std_fn_amplitude distributionMap n name stored vPeak =
        (match PyVec.trad_mean_fn_amplitude distributionMap name stored vPeak, PyVec.trad_std_fn_amplitude distributionMap name stored vPeak with
          | some m, some s => factoryO distributionMap n name m s
          | _, _ => none) := by
  bridge_cases
    intro n name stored vPeak
    refine (fun h => ⟨h, h⟩) ?_  -- the amplitude conjunct unfolds to the frequency one
    -- as in `nanmean_weighted_dist`; the three translated accessors repeat the same tests
    rcases h : Dist.ofString (pyLower name) with _ | _ | _ <;>
      simp only [PyVec.trad_nth_std_fn_frequency, PyVec.trad_mean_fn_frequency, PyVec.trad_std_fn_frequency, factoryO, lookup_distributionMap_iff, h,
        reduceCtorEq, Option.some.injEq, or_self, or_true, true_or, not_true_eq_false, not_false_eq_true, if_false, if_true, ite_self]

theorem factoryO_eq (n : ℝ) (name : String) (d : Dist) (m s : Option ℝ) (h : Dist.ofString name = some d) :
    factoryO distributionMap (some n) name m s = some (nthStdO n d m s) := by
  simp only [factoryO, lookup_distributionMap_iff, h]
  cases d <;> simp only [reduceCtorEq, Option.some.injEq, if_false, if_true] <;> cases m <;> cases s <;> rfl

/-- every spelling the alias table knows is lower case already -/
theorem ofString_lower {name : String} {d : Dist} (h : Dist.ofString name = some d) : pyLower name = name := by
  by_contra hn
  -- `pyLower` fixes each of the three keys; a `name` it moves is therefore none of them, and the lookup finds nothing
  have hk : ∀ p ∈ distributionMap, (name != p.1) = true := by
    simp only [distributionMap, List.forall_mem_cons, bne_iff_ne]
    refine ⟨?_, ?_, ?_, nofun⟩ <;> rintro rfl <;>
      exact hn (by unfold pyLower; apply String.toList_inj.mp; simp [String.toLower, String.toList_map])
  rw [Dist.ofString, List.lookup_eq_none_iff.mpr hk] at h
  cases h

/-- on every state of a traditional result and for every spelling `name` of a distribution `d` the alias table knows, the translated
`nth_std_fn_frequency(n, name)` / `nth_std_fn_amplitude(n, name)` return the model's `nthStdFn` / `nthStdAmp` — the values the rejection bounds of `Props/C06*.lean`
(`bounds_lognormal`, `bounds_normal`, `iter_keeps_iff`) and the ±n clauses of `Props/C05.lean` are about -/
theorem py_trad_nth_state : (PyVec.trad_nth_std_fn_frequency.ok && PyVec.trad_nth_std_fn_amplitude.ok && PyVec.trad_mean_fn_frequency.ok &&
      PyVec.trad_mean_fn_amplitude.ok && PyVec.trad_std_fn_frequency.ok && PyVec.trad_std_fn_amplitude.ok && PyVec.nanmean_weighted.ok && PyVec.nanstd_weighted.ok) = false ∨
    ∀ (n : ℝ) (name : String) (d : Dist) (s : HvTrad ℝ), Dist.ofString name = some d →
      PyVec.trad_nth_std_fn_frequency distributionMap (some n) name (s.peaks.map (fun p => p.map (·.1))) s.vPeak = some (s.nthStdFn n d) ∧
      PyVec.trad_nth_std_fn_amplitude distributionMap (some n) name (s.peaks.map (fun p => p.map (·.2))) s.vPeak = some (s.nthStdAmp n d) := by
  bridge_cases
    intro n name d s hd
    have hdec := of_ok py_trad_nth_decomp rfl (some n) name
    obtain ⟨hmf, hma, hsf, hsa⟩ := of_ok py_trad_stats_state rfl name s
    rw [ofString_lower hd, hd] at hmf hma hsf hsa
    rw [(hdec _ _).1, (hdec _ _).2, hmf, hma, hsf, hsa]
    exact ⟨factoryO_eq n name d _ _ hd, factoryO_eq n name d _ _ hd⟩

end HV.Bridge
