import HvsrVerif.Generated.Tables
import HvsrVerif.Model.Fdwra
import HvsrVerif.Bridge.TableEq
/-! Bridge C06: convergence limits and comparison operators of the FDWRA loop.
Operator codes: 0 `<`, 1 `<=`, 2 `>`, 3 `>=`. The model uses `d_diff < 0.01 ∧ s_diff < 0.01` and
`c_peak > lower ∧ c_peak < upper`. -/
namespace HV.Bridge
theorem fdwra_limits :
    Generated.fdwraLimits = none ∨
    Generated.fdwraLimits = some ((0, HV.fdwraLimits.1), (0, HV.fdwraLimits.2)) := table_eq rfl
theorem fdwra_accept_ops :
    Generated.fdwraAcceptOps = none ∨ Generated.fdwraAcceptOps = some (2, 0) := table_eq rfl
end HV.Bridge
