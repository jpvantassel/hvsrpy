import HvsrVerif.Generated.PyVec
import HvsrVerif.Bridge.PyCommon
import HvsrVerif.Proofs.StatsLemmas
import HvsrVerif.Model.Spatial
/-!
# Bridge: `hvsr_spatial._statistics` translated from the Python source = the model's `statistics` (C14)

`Generated/PyVec.lean::spatial_statistics` is the symbolic execution of the two `for ... in zip(values, norm_weights)` loops of `_statistics`
(left folds with the code's own accumulators, the loop variable that survives the loop, `np.sqrt` with NaN for a negative radicand). The theorem
says that for every matrix of realisations and every weight vector the pair it returns is defined exactly when the model's `statistics` is,
and then equal to it — `statistics` being the function the weighted-mean / weighted-standard-deviation / weight-scaling / zero-sigma theorems of
`Props/C14.lean` are about.
-/
namespace HV.Bridge
open HV.Generated HV.PyV Classical

/-- the returned pair of floats as a pair of reals; undefined as soon as one of them is NaN/inf -/
def bothDefined : Option ℝ × Option ℝ → Option (ℝ × ℝ)
  | (some m, some s) => some (m, s)
  | _ => none

/-- `/` on defined operands, with the test the model makes on the divisor -/
theorem odiv_somes (a b : ℝ) : odiv (some a) (some b) = if eqA b (n# 0) then none else some (a / b) := rfl

theorem vsum_somes (r : List ℝ) : vsum (r.map some) = some (sumA r) := by
  have h : (r.map some).all Option.isSome = true := by rw [List.all_map]; exact List.all_eq_true.mpr (fun _ _ => rfl)
  rw [vsum, if_pos h]
  exact congrArg (fun l => some (sumA l)) (somes_map_some r)

theorem vn_somes (f : ℝ → ℝ → ℝ) (r : List ℝ) (s : ℝ) : vn (lift2 f) (r.map some) (some s) = (r.map (f · s)).map some := by
  unfold vn; rw [List.map_map, List.map_map]; rfl

theorem vv_somes (f : ℝ → ℝ → ℝ) (a b : List ℝ) : vv (lift2 f) (a.map some) (b.map some) = (List.zipWith f a b).map some := by
  unfold vv; rw [List.zipWith_map, List.map_zipWith]; rfl

theorem sqDev_eq (m : ℝ) (row : List ℝ) :
    vsum (vv omul (vn osub (row.map some) (some m)) (vn osub (row.map some) (some m))) = some (sqDev m row) := by
  unfold omul osub
  rw [vn_somes, vv_somes, vsum_somes, List.zipWith_self, List.map_map]
  rfl

theorem zip_somes (values : List (List ℝ)) (nw : List ℝ) :
    List.zip (values.map (fun r => r.map some)) (nw.map some) = (List.zip values nw).map (fun z => (z.1.map some, some z.2)) := by
  rw [List.zip_map]; rfl

/-- a fold whose step keeps defined values defined is the fold of the underlying real step -/
theorem foldl_somes {σ τ : Type} (inj : σ → τ) (f : τ → (List (Option ℝ) × Option ℝ) → τ) (g : σ → (List ℝ × ℝ) → σ)
    (hf : ∀ a row w, f (inj a) (List.map some row, some w) = inj (g a (row, w))) (zs : List (List ℝ × ℝ)) (a : σ) :
    List.foldl f (inj a) (zs.map (fun z => (z.1.map some, some z.2))) = inj (List.foldl g a zs) := by
  rw [List.foldl_map]
  exact List.foldl_hom inj fun a z => hf a z.1 z.2

/-- the first loop of `_statistics` on defined rows and weights -/
theorem fold_mean (zs : List (List ℝ × ℝ)) :
    List.foldl (fun st pr => oadd st (omul pr.2 (vsum pr.1))) (onat 0) (zs.map (fun z => (z.1.map some, some z.2)))
      = (some (foldSum (fun z => z.2 * sumA z.1) zs) : Option ℝ) :=
  foldl_somes some _ (fun acc z => acc + z.2 * sumA z.1) (fun a row w => by rw [vsum_somes]; rfl) zs (n# 0)

theorem foldl_pair {β : Type} (f g : β → ℝ) (l : List β) (a b : ℝ) :
    l.foldl (fun (st : ℝ × ℝ) x => (st.1 + f x, st.2 + g x)) (a, b) = (l.foldl (fun acc x => acc + f x) a, l.foldl (fun acc x => acc + g x) b) := by
  induction l generalizing a b with
  | nil => rfl
  | cons x xs ih => rw [List.foldl_cons, List.foldl_cons, List.foldl_cons, ih]

/-- the second loop of `_statistics` around a defined mean `m` -/
theorem fold_dev (zs : List (List ℝ × ℝ)) (m : ℝ) :
    List.foldl (fun (st : Option ℝ × Option ℝ) (pr : List (Option ℝ) × Option ℝ) =>
        (oadd st.1 (omul pr.2 (vsum (vv omul (vn osub pr.1 (some m)) (vn osub pr.1 (some m))))), oadd st.2 (omul pr.2 pr.2))) (onat 0, onat 0)
        (zs.map (fun z => (z.1.map some, some z.2)))
      = (some (foldSum (fun z => z.2 * sqDev m z.1) zs), some (foldSum (fun z => z.2 * z.2) zs)) := by
  refine (foldl_somes (fun p : ℝ × ℝ => (some p.1, some p.2)) _ (fun st z => (st.1 + z.2 * sqDev m z.1, st.2 + z.2 * z.2))
    (fun a row w => by simp only [sqDev_eq]; rfl) zs (n# 0, n# 0)).trans ?_
  rw [foldl_pair]
  rfl

/-- the two divisions and the square root that close `_statistics`, on defined sums and a row length `n ≠ 0`: the model's last two guards -/
theorem stat_guards (m N W n : ℝ) (hn : eqA n (n# 0) = false) :
    bothDefined (some m, osqrt (odiv (odiv (some N) (some n)) (osub (onat 1) (odiv (some W) (some n))))) =
      if eqA ((n# 1) - W / n) (n# 0) || decide (N / n / ((n# 1) - W / n) < (n# 0)) then none
      else some (m, Transc.sqrt (N / n / ((n# 1) - W / n))) := by
  simp only [odiv_somes, hn, onat, osub, lift2, Bool.false_eq_true, if_false]
  cases eqA ((n# 1 : ℝ) - W / n) (n# 0)
  · simp only [Bool.false_eq_true, if_false, osqrt, Bool.false_or, decide_eq_true_eq]
    split_ifs <;> rfl
  · rfl

/-- the generated function as a function of the zipped (row, normalised weight) list -/
noncomputable def specStat (Z : List (List (Option ℝ) × Option ℝ)) : Option (Option ℝ × Option ℝ) :=
  match Z.getLast? with
  | none => none
  | some last =>
    let mean := odiv (List.foldl (fun st pr => oadd st (omul pr.2 (vsum pr.1))) (onat 0) Z) (olen last.1)
    let st2 := List.foldl (fun (st : Option ℝ × Option ℝ) (pr : List (Option ℝ) × Option ℝ) =>
      (oadd st.1 (omul pr.2 (vsum (vv omul (vn osub pr.1 mean) (vn osub pr.1 mean)))), oadd st.2 (omul pr.2 pr.2))) (onat 0, onat 0) Z
    some (mean, osqrt (odiv (odiv st2.1 (olen last.1)) (osub (onat 1) (odiv st2.2 (olen last.1)))))

theorem generated_eq_spec : PyVec.spatial_statistics.ok = false ∨ ∀ (V : List (List (Option ℝ))) (W : List (Option ℝ)),
    PyVec.spatial_statistics V W = specStat (List.zip V (vn odiv W (vsum W))) := by
  bridge_cases
    intro V W
    unfold PyVec.spatial_statistics specStat
    simp only []
    cases h : (List.zip V (vn odiv W (vsum W))).getLast? with
    | none => rfl
    | some last => obtain ⟨r, x⟩ := last; rfl

/-- a step that returns `c` at the last element, whatever the state, makes the fold return `c` -/
theorem foldl_last_const {σ β : Type} (f : σ → β → σ) (l : List β) (hne : l ≠ []) {c : σ} (hf : ∀ st, f st (l.getLast hne) = c)
    (st : σ) : l.foldl f st = c := by
  rw [← List.dropLast_append_getLast hne, List.foldl_append]
  exact hf _

/-- zero weight sum (every normalised weight is undefined): as soon as there is a row the mean is undefined -/
theorem specStat_none_weights (rows : List (List (Option ℝ))) (ws : List (Option ℝ)) (hws : ∀ w ∈ ws, w = none) :
    (specStat (List.zip rows ws)).bind bothDefined = none := by
  unfold specStat
  cases h : (List.zip rows ws).getLast? with
  | none => rfl
  | some last =>
    have hne : List.zip rows ws ≠ [] := by intro h0; rw [h0] at h; cases h
    have hf : List.foldl (fun st pr => oadd st (omul pr.2 (vsum pr.1))) (onat 0) (List.zip rows ws) = (none : Option ℝ) :=
      foldl_last_const _ _ hne (fun st => by
        rw [hws _ (List.of_mem_zip (a := ((List.zip rows ws).getLast hne).1) (List.getLast_mem hne)).2]
        cases st <;> rfl) _
    simp only [hf]
    rfl

/-- non-zero weight sum: all quantities are defined up to the two divisions and the square root, which are the model's guards -/
theorem specStat_somes (values : List (List ℝ)) (nw : List ℝ) :
    (specStat ((List.zip values nw).map (fun z => (z.1.map some, some z.2)))).bind bothDefined = statisticsN values nw := by
  unfold statisticsN
  simp only []
  generalize List.zip values nw = zs
  unfold specStat
  rw [List.getLast?_map]
  cases h : zs.getLast? with
  | none => rfl
  | some z =>
    simp only [Option.map_some, fold_mean, olen, List.length_map]
    cases hn : eqA (n# z.1.length : ℝ) (n# 0)
    · have hmean : odiv (some (foldSum (fun z => z.2 * sumA z.1) zs)) (some (n# z.1.length : ℝ)) = some (statMean zs (n# z.1.length)) := by
        rw [odiv_somes, hn, if_neg Bool.false_ne_true]; rfl
      simp only [hmean, fold_dev, Option.bind_some, Bool.false_or]
      exact stat_guards _ _ _ _ hn
    · simp only [odiv_somes, hn, if_true, Bool.true_or]
      rfl

/-- `_statistics(values, weights)` for every matrix of realisations and every weight vector: the pair returned by the translated code has both
components defined exactly when the model's `statistics` is defined, and then it is the model's pair -/
theorem py_spatial_statistics : PyVec.spatial_statistics.ok = false ∨
    ∀ (values : List (List ℝ)) (w : List ℝ),
      (PyVec.spatial_statistics (values.map (fun r => r.map some)) (w.map some)).bind bothDefined = statistics values w := by
  bridge_cases
    intro values w
    rw [of_ok generated_eq_spec rfl, vsum_somes, statistics]
    cases e0 : eqA (sumA w) (n# 0)
    · have hnw : vn odiv (w.map some) (some (sumA w)) = (normWeights w).map some := by
        unfold vn normWeights
        rw [List.map_map, List.map_map]
        apply List.map_congr_left
        intro x _
        simp only [Function.comp, odiv_somes, e0, Bool.false_eq_true, if_false]
      rw [hnw, zip_somes, specStat_somes, if_neg Bool.false_ne_true]
    · -- zero weight sum: every normalised weight is undefined
      have hw : ∀ x ∈ vn odiv (w.map some) (some (sumA w)), x = none := by
        intro x hx
        obtain ⟨y, hy, rfl⟩ := List.mem_map.mp hx
        obtain ⟨r, _, rfl⟩ := List.mem_map.mp hy
        rw [odiv_somes, e0, if_pos rfl]
      rw [if_pos rfl]
      exact specStat_none_weights _ _ hw

end HV.Bridge
