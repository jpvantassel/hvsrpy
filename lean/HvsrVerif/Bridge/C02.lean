import HvsrVerif.Generated.Tables
import HvsrVerif.Model.Smoothing
import HvsrVerif.Bridge.TableEq
/-! Bridge C02: numeric constants of the smoothing kernels and the operator registry
(`SMOOTHING_OPERATORS`: every key is bound to the function of the same name). -/
namespace HV.Bridge
theorem smooth_consts :
    Generated.smoothConsts = none ∨ Generated.smoothConsts = some HV.smoothConsts.toList := table_eq rfl
theorem smoothing_operators :
    Generated.smoothingOperators = none ∨
    Generated.smoothingOperators = some (HV.smoothingOperators.map (fun n => (n, n))) := table_eq rfl
end HV.Bridge
