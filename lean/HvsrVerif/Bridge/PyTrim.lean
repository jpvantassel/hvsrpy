import HvsrVerif.Generated.PyTrim
import HvsrVerif.Bridge.PyCommon
import HvsrVerif.Proofs.Rec
/-! Bridge: the refusals and the index selection of `TimeSeries.trim` translated from timeseries.py = the model's `trimIdx`
(the function `Props/C18.lean::trim_nearest`, `trim_refuses` are about). `np.argmin(np.absolute(current_time - t))` and `current_time[-1]`
are inputs of the translation (numpy's `argmin` is modelled by `argminAbs`: first index of the minimum). -/
namespace HV.Bridge
open HV.Generated HV.Split Classical

/-- the translated guards: refused exactly when the start is negative, the end is not after the start, or the end is after the last sample;
otherwise the two given nearest-sample indices, unchanged (the slice is `[start_index : end_index + 1]`) -/
theorem py_trim_indices : Py.trim_indices.ok = false ∨
    ∀ (t0 t1 tlast : ℝ) (s e : ℤ),
      Py.trim_indices t0 t1 tlast s e = if t0 < 0 ∨ t1 ≤ t0 ∨ tlast < t1 then none else some (s, e) := by
  bridge_cases
    intro t0 t1 tlast s e
    simp only [Py.trim_indices, ofNat_real, Nat.cast_zero]
    by_cases h0 : t0 < 0 <;> by_cases h1 : t1 ≤ t0 <;> by_cases h2 : tlast < t1 <;> simp [h0, h1, h2]

/-- for a non-empty record with time axis `i · dt` the translation, fed with the last time and the model's nearest-sample indices, is the
model's `trimIdx` -/
theorem py_trim_is_trimIdx : Py.trim_indices.ok = false ∨
    ∀ (n : ℕ) (dt t0 t1 : ℝ), 0 < n →
      (Py.trim_indices t0 t1 (timeAt dt (n - 1)) (argminAbs dt t0 n : ℤ) (argminAbs dt t1 n : ℤ)).map (fun p => (p.1.toNat, p.2.toNat))
        = (match trimIdx n dt t0 t1 with | .ok p => some p | .error _ => none) := by
  refine py_trim_indices.imp_right fun h n dt t0 t1 hn => ?_
  rw [h, trimIdx_real, timeAt, ofNat_real, if_congr (or_iff_right (Nat.ne_of_gt hn)) rfl rfl]
  split <;> rfl

end HV.Bridge
