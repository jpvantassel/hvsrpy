import HvsrVerif.Generated.PyReaders
import HvsrVerif.Bridge.PyCommon
import HvsrVerif.Proofs.Readers
/-! Bridge: the MiniShark header scaling, the PEER orientation rule, one pass of the loop of `_arrange_traces` and
`_check_npts`, translated from data_wrangler.py = the reader model's `msharkScale`, `arrangeStep` and `checkNpts` (see
`Bridge/PyCommon.lean`). The model has no function for the PEER orientation: `py_peer_orientation` is stated against the
expression `a - peerMod * (a / peerModDiv)` typed again from the `let d` inside `peerAssemble`, so that tie is by reading.
The reader model works in exact rationals / integers; the statements cast them to `ℝ`. -/
-- the `first | … | …` and `try …` tails are fallbacks for rewritten sources (the generated file is re-translated on every
-- check run); on today's text some of them run on no goal, which these two linters would report
set_option linter.unusedTactic false
set_option linter.unreachableTactic false
namespace HV.Bridge
open HV.Generated HV.Rd Classical

/-- every stored integer sample is divided by the gain, then by the conversion factor -/
theorem py_minishark_scale : Py.minishark_scale.ok = false ∨
    ∀ (x : ℤ) (gain conv : ℕ),
      Py.minishark_scale (x : ℝ) (gain : ℝ) (conv : ℝ) = ((msharkScale gain conv x : ℚ) : ℝ) := by
  bridge_cases
    intro x gain conv
    simp only [Py.minishark_scale, msharkScale]
    push_cast
    first | rfl | ring_nf

/-- the orientation taken from a PEER azimuth code `a` (an integer number of degrees) is `a mod 360` in `[0, 360)` -/
theorem py_peer_orientation : Py.peer_orientation.ok = false ∨
    ∀ a : ℤ, Py.peer_orientation (a : ℝ) = ((a - (readerConsts.peerMod : ℤ) * (a / (readerConsts.peerModDiv : ℤ)) : ℤ) : ℝ) := by
  bridge_cases
    intro a
    simp only [Py.peer_orientation, py_floordiv, ofNat_real, readerConsts]
    have h : ⌊(a : ℝ) / ((360 : ℕ) : ℝ)⌋ = a / 360 := by
      rw [Int.floor_div_natCast, Int.floor_intCast]; rfl
    push_cast at h ⊢
    rw [h]
    all_goals (try push_cast)
    all_goals (try ring_nf)

theorem py_endswith1 (s : String) (c : Char) : pyEndsWith1 s c = endsWithC s c := rfl

/-- one pass of the loop of `_arrange_traces`, translated from the source: on every state of the three "found" flags and for every channel name it refuses
exactly when the model's `arrangeStep` refuses, and otherwise sets the flag of the slot `arrangeStep` fills -/
theorem py_arrange_step : Py.arrange_step.ok = false ∨
    ∀ (τ : Type) (ch : String) (x : τ) (st : ArrSt τ),
      Py.arrange_step (α := ℝ) ch st.ew.isSome st.ns.isSome st.vt.isSome =
        (match arrangeStep st (ch, x) with
         | Except.error _ => none
         | Except.ok st' => some (st'.ew.isSome, st'.ns.isSome, st'.vt.isSome)) := by
  bridge_cases
    intro τ ch x st
    rcases exists_slot_or_no_suffix ch with ⟨s, hs⟩ | hs
    · rw [arrangeStep_of_suffix (tr := (ch, x)) hs]
      cases s <;> cases h : st.get _ <;> simp only [ArrSt.get] at h <;>
        simp [Py.arrange_step, py_endswith1, endsWithC_of_last hs, Slot.char, ArrSt.set, h]
    · simp [arrangeStep_of_no_suffix (tr := (ch, x)) hs, Py.arrange_step, py_endswith1, endsWithC, hs]

/-- `_check_npts` raises exactly when the two counts differ -/
theorem py_check_npts : Py.check_npts.ok = false ∨
    ∀ (hdr found : ℕ), (Py.check_npts (α := ℝ) (hdr : ℤ) (found : ℤ)).isSome = (match checkNpts hdr found with | Except.ok _ => true | Except.error _ => false) := by
  bridge_cases
    intro hdr found
    simp only [Py.check_npts, checkNpts]
    by_cases h : hdr = found
    · subst h; simp
    · have h' : ¬ ((hdr : ℤ) = (found : ℤ)) := by exact_mod_cast h
      simp [h, h']

end HV.Bridge
