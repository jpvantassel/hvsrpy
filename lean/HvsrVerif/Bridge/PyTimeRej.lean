import HvsrVerif.Generated.PyTimeRej
import HvsrVerif.Bridge.PyCommon
import HvsrVerif.Bridge.PySplit
import HvsrVerif.Model.TimeRej
import Mathlib.Data.Rat.Floor
/-! Bridge (C13): the scalar decisions of the two time-domain rejection criteria, translated from `window_rejection.py` on every run,
equal the model's (`Model/TimeRej.lean`): points per STA / LTA (`int(seconds // dt)` = `nptsExact`), the three refusals of `staLtaRatios`
in the model's order, the number of STA chunks, the reject decision `ratiosOk`, and the three steps of the maximum-value criterion
(`windowMaxStep`, normalisation by the overall maximum, `m < threshold`). For the pairs `py_X` / `X_model` see the header of
`Bridge/PyCommon.lean`. -/
namespace HV.Bridge
open HV.Generated HV.Split Classical

/-- `int(seconds // dt)` is the floor of the exact quotient -/
theorem py_npts (s d : ℝ) : pyTruncInt (pyFloorDiv s d) = ⌊s / d⌋ := by
  rw [py_trunc_eq, py_floordiv, truncInt_intCast]

/-- ... which for (exactly represented, i.e. rational) doubles is the model's `nptsExact` -/
theorem py_npts_exact (s d : ℚ) : pyTruncInt (pyFloorDiv (s : ℝ) (d : ℝ)) = nptsExact s d := by
  rw [py_npts, nptsExact, ← Rat.cast_div, Rat.floor_cast]
  rfl

/-- stated at the types of `py_sta_lta_model`: for generic `Except ε γ` Lean compiles another matcher and `simp` no longer connects the two -/
theorem exceptToOption_ite {β : Type} (c : Prop) [Decidable c] (s : String) (b : Except String (List ℝ)) (v : β) :
    (match (if c then .error s else b) with
     | .error _ => none
     | .ok _ => some v) =
      if c then none else (match b with | .error _ => none | .ok _ => some v) := by
  split_ifs <;> rfl

/-- body of the component loop of `sta_lta_window_rejection`, as translated: refusals in the order IndexError (STA), ZeroDivisionError,
IndexError (LTA); then `some false` is appended (and the loop left) exactly when an extreme ratio violates a limit -/
theorem py_sta_lta_step : Py.sta_lta_step.ok = false ∨
    ∀ (sta lta lo hi dt : ℝ) (N : ℤ) (rmax rmin : ℝ),
      Py.sta_lta_step sta lta lo hi dt N rmax rmin =
        (let nsta := ⌊sta / dt⌋
         let nlta := ⌊lta / dt⌋
         if N < nsta then none else if nsta = 0 then none else if N < nlta then none
         else some (nsta, Int.fdiv N nsta, nlta, if hi < rmax ∨ rmin < lo then some false else none)) := by
  bridge_cases
    intro sta lta lo hi dt N rmax rmin
    simp only [Py.sta_lta_step, py_npts, apply_ite (Prod.mk _), apply_ite some]

theorem ratiosOk_of_extremes {lo hi rmax rmin : ℝ} {r : List ℝ} (hmax : maxL' r = some rmax) (hmin : minL' r = some rmin) :
    ratiosOk lo hi r = true ↔ ¬ (hi < rmax ∨ rmin < lo) := by
  simp only [ratiosOk, hmax, hmin, Bool.not_eq_true', Bool.or_eq_false_iff, decide_eq_false_iff_not, not_or]

/-- the same decisions in the model's vocabulary: for a component of `x.length` samples whose ratios have the given extremes, the translated
step refuses exactly when `staLtaRatios` refuses, counts `x.length / nsta` chunks, and rejects exactly when `ratiosOk` is false -/
theorem py_sta_lta_model (sta lta lo hi dt : ℝ) (nsta nlta : ℕ) (x r : List ℝ) (rmax rmin : ℝ)
    (hs : ⌊sta / dt⌋ = (nsta : ℤ)) (hl : ⌊lta / dt⌋ = (nlta : ℤ)) (hmax : maxL' r = some rmax) (hmin : minL' r = some rmin) :
    (let nsta' := ⌊sta / dt⌋
     let nlta' := ⌊lta / dt⌋
     if (x.length : ℤ) < nsta' then (none : Option (ℤ × ℤ × ℤ × Option Bool)) else if nsta' = 0 then none else if (x.length : ℤ) < nlta' then none
     else some (nsta', Int.fdiv (x.length : ℤ) nsta', nlta', if hi < rmax ∨ rmin < lo then some false else none)) =
      (match staLtaRatios nsta nlta x with
       | .error _ => none
       | .ok _ => some ((nsta : ℤ), ((x.length / nsta : ℕ) : ℤ), (nlta : ℤ), if ratiosOk lo hi r then none else some false)) := by
  simp only [staLtaRatios, exceptToOption_ite, hs, hl, Nat.cast_lt, Int.natCast_eq_zero, Int.ofNat_fdiv, ratiosOk_of_extremes hmax hmin, ite_not]

/-- running maximum over the components of one window = `windowMaxStep` -/
theorem py_maxvalue_update : Py.maxvalue_update.ok = false ∨
    ∀ (m cm : ℝ), Py.maxvalue_update m cm = if m < cm then cm else m := by
  bridge_cases
    intro m cm
    simp only [Py.maxvalue_update]

theorem py_maxvalue_update_model (m : ℝ) (c : List ℝ) (cm : ℝ) (h : maxL' (c.map absA) = some cm) :
    (if m < cm then cm else m) = windowMaxStep m c := by
  simp only [windowMaxStep, h]

/-- normalisation: every maximum is divided by the overall maximum iff `normalized` -/
theorem py_maxvalue_normalise : Py.maxvalue_normalise.ok = false ∨
    ∀ (m : ℝ) (normalized : Bool) (g : ℝ), Py.maxvalue_normalise m normalized g = if normalized then m / g else m := by
  bridge_cases
    intro m normalized g
    cases normalized <;> simp [Py.maxvalue_normalise]

/-- keep decision: `True` is appended iff the (normalised) maximum is strictly below the threshold; something is appended for every window -/
theorem py_maxvalue_keep : Py.maxvalue_keep.ok = false ∨
    ∀ (m thr : ℝ), Py.maxvalue_keep m thr = some (decide (m < thr)) := by
  bridge_cases
    intro m thr
    by_cases h : m < thr <;> simp [Py.maxvalue_keep, h]

/-- composition: the mask entry of the model's `maxValueMask` is the translated keep decision of the translated normalisation -/
theorem py_maxvalue_mask_entry (thr : ℝ) (normalized : Bool) (wins : List (List (List ℝ))) (g : ℝ)
    (hg : maxL' ((wins.map windowMax).map absA) = some g) :
    maxValueMask thr normalized wins = (wins.map windowMax).map (fun m => decide ((if normalized then m / g else m) < thr)) := by
  simp only [maxValueMask, hg]
  cases normalized <;> simp only [List.map_map, Function.comp_def, ↓reduceIte, Bool.false_eq_true]

end HV.Bridge
