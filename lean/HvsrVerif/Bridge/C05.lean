import HvsrVerif.Generated.Tables
import HvsrVerif.Model.Stats
import HvsrVerif.Bridge.TableEq
/-! Bridge C05: `DISTRIBUTION_MAP` of constants.py (sorted by key) is the model's alias table -/
namespace HV.Bridge
theorem distribution_map :
    Generated.distributionMap = none ∨ Generated.distributionMap = some HV.distributionMap := table_eq rfl
end HV.Bridge
