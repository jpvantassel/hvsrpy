import HvsrVerif.Generated.Tables
import HvsrVerif.Model.Readers
import HvsrVerif.Bridge.TableEq
/-! Bridge C07: the tables of the reader model are the tables of `hvsrpy/data_wrangler.py` / `regex.py` -/
namespace HV.Bridge

/-- `READ_FUNCTION_DICT`: keys, reader functions and — the point — their order -/
theorem read_dispatch_table :
    Generated.readDispatch = none ∨ Generated.readDispatch = some HV.Rd.dispatchTable := table_eq rfl

/-- the reader whose exception `read_single` re-raises -/
theorem read_reraise :
    Generated.readReraise = none ∨ Generated.readReraise = some HV.Rd.reraiseName := table_eq rfl

theorem reraise_is_last : HV.Rd.dispatchOrder.getLast? = some HV.Rd.reraiseName := rfl

/-- constants of the NORTH_ROT rule, the PEER azimuth folding and the modulo-360 normalisation -/
theorem reader_consts :
    Generated.readerConsts = none ∨ Generated.readerConsts = some HV.Rd.readerConsts.toList := table_eq rfl

/-- source strings (and flags) of the SAF / MiniShark / PEER regular expressions -/
theorem reader_regex :
    Generated.readerRegex = none ∨ Generated.readerRegex = some HV.Rd.regexSources := table_eq rfl

end HV.Bridge
