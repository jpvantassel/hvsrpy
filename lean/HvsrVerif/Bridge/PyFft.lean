import HvsrVerif.Generated.PyFft
import HvsrVerif.Bridge.PyCommon
import HvsrVerif.Proofs.ProcessLemmas
import HvsrVerif.Model.Cli
/-! Bridge (C01, C09, C19): the FFT-length rule translated from `processing.py` on every run.

* `nextpow2`: the `while True` loop becomes `Py.nextpow2.loop`, a recursion on fuel that returns `none` when the fuel runs out. `py_nextpow2_loop`
  proves that the loop TERMINATES (any fuel above `k` suffices as soon as `n < p·2^k`) and returns the value of the model's loop; `py_nextpow2` that with fuel
  `n + 2` or more the translated function returns `HV.nextpow2 n min` (the model of `Props/C01.lean`), `py_nextpow2_cli` the same for the model of `Props/C19.lean`.
* `prepare_fft_settings`: what is stored back into `settings.fft_settings` as a function of its previous value equals `prepareFft` of both models.
  The translation starts AFTER the line `good_n = nextpow2(max_n_samples)`: `Py.prepare_fft_store` takes `good_n` and `max_n_samples` as arguments and the two
  theorems put the model's own `nextpow2 maxN` / `goodN maxN` there. That `good_n` is `nextpow2` of the longest record (with the default minimum) is tied
  by no theorem, only by the differential correspondence. -/
namespace HV.Bridge
open HV.Generated

/-- termination and value of the translated loop: with `n < p·2^k` any fuel above `k` reaches the `return`, and the value is the model's
(`m`, the argument `minimum_power_of_two`, is passed along by the translated loop and never read) -/
theorem py_nextpow2_loop : Py.nextpow2.ok = false ∨
    ∀ (k n p m fuel : ℕ), n < p * 2 ^ k → k < fuel →
      Py.nextpow2.loop (α := ℝ) (n : ℤ) (m : ℤ) fuel (p : ℤ) = some ((nextpow2Aux k p n : ℕ) : ℤ) := by
  bridge_cases
    intro k n p m fuel
    induction fuel generalizing k p with
    | zero => exact fun _ hf => absurd hf (Nat.not_lt_zero k)
    | succ f ih =>
      intro h hf
      unfold Py.nextpow2.loop
      by_cases hp : n < p
      · cases k <;> simp [nextpow2Aux, hp]
      · cases k with
        | zero => exact absurd (by simpa using h) hp
        | succ k =>
          simp only [Nat.cast_lt, hp, if_false, nextpow2Aux]
          rw [show ((p : ℤ) * 2) = ((2 * p : ℕ) : ℤ) by push_cast; ring]
          exact ih k (2 * p) (by rwa [two_mul_mul_two_pow]) (Nat.lt_of_succ_lt_succ hf)

/-- **`nextpow2` as translated terminates and equals the model** (`HV.nextpow2`, `Props/C01.lean::nextpow2_spec`): any fuel of at least `n + 2` iterations -/
theorem py_nextpow2 : Py.nextpow2.ok = false ∨
    ∀ (n min fuel : ℕ), 1 ≤ min → n + 2 ≤ fuel →
      Py.nextpow2 (α := ℝ) fuel (n : ℤ) (min : ℤ) = some ((HV.nextpow2 n min : ℕ) : ℤ) := by
  bridge_cases
    intro n min fuel hmin hf
    unfold Py.nextpow2 HV.nextpow2
    exact of_ok py_nextpow2_loop rfl (n + 1) n min min fuel (lt_mul_two_pow n min hmin) hf

theorem py_nextpow2_cli : Py.nextpow2.ok = false ∨
    ∀ (n min fuel : ℕ) (hmin : 0 < min), n + 2 ≤ fuel →
      Py.nextpow2 (α := ℝ) fuel (n : ℤ) (min : ℤ) = some ((Cli.nextpow2 n min hmin : ℕ) : ℤ) := by
  bridge_cases
    intro n min fuel hmin hf
    rw [of_ok py_nextpow2 rfl n min fuel hmin hf, nextpow2_eq_cli n min hmin]

/-- `settings.fft_settings` of the C19 model as the translated value: `None`, `{}` (no key `n`), `{"n": None}`, `{"n": k}` -/
def encFftCli : Cli.FftState → Option (Option (Option Int))
  | .unset => none
  | .noKey => some none
  | .nNone => some (some none)
  | .n k => some (some (some (k : ℤ)))

/-- the three states of the C01 model (a dict without the key is not distinguished there) -/
def encFft : HV.FftState → Option (Option (Option Int))
  | .unset => none
  | .nNone => some (some none)
  | .n k => some (some (some (k : ℤ)))

/-- **what `prepare_fft_settings` stores is `prepareFft`** (model of `Props/C19.lean`), for every previous state and every record length -/
theorem py_prepare_fft_store_cli : Py.prepare_fft_store.ok = false ∨
    ∀ (s : Cli.FftState) (maxN : ℕ),
      Py.prepare_fft_store (α := ℝ) ((Cli.goodN maxN : ℕ) : ℤ) (maxN : ℤ) (encFftCli s) = encFftCli (Cli.prepareFft s maxN) := by
  bridge_cases
    intro s maxN
    cases s with
    | unset => simp [Py.prepare_fft_store, encFftCli, Cli.prepareFft]
    | noKey =>
      simp only [Py.prepare_fft_store, encFftCli, Cli.prepareFft]
      by_cases h : Cli.goodN maxN > maxN <;> simp [h]
    | nNone => simp [Py.prepare_fft_store, encFftCli, Cli.prepareFft]
    | n k =>
      simp only [Py.prepare_fft_store, encFftCli, Cli.prepareFft]
      by_cases h : Cli.goodN maxN > k <;> simp [h]

/-- the same for the model of `Props/C01.lean` / `Props/C09.lean` -/
theorem py_prepare_fft_store : Py.prepare_fft_store.ok = false ∨
    ∀ (s : HV.FftState) (maxN : ℕ),
      Py.prepare_fft_store (α := ℝ) ((HV.nextpow2 maxN : ℕ) : ℤ) (maxN : ℤ) (encFft s) = encFft (HV.prepareFft s maxN) := by
  bridge_cases
    intro s maxN
    cases s with
    | unset => simp [Py.prepare_fft_store, encFft, HV.prepareFft]
    | nNone => simp [Py.prepare_fft_store, encFft, HV.prepareFft]
    | n k =>
      simp only [Py.prepare_fft_store, encFft, HV.prepareFft]
      by_cases h : k < HV.nextpow2 maxN <;> simp [h]

end HV.Bridge
