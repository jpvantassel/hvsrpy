import HvsrVerif.Generated.Tables
import HvsrVerif.Model.Sesame
import HvsrVerif.Bridge.TableEq
/-! Bridge C16: the constants of the model are the constants of `hvsrpy/sesame.py` -/
namespace HV.Bridge

theorem sesame_bands :
    Generated.sesameBands = none ∨ Generated.sesameBands = some HV.sesameBands := table_eq rfl

theorem sesame_last_band :
    Generated.sesameLastBand = none ∨ Generated.sesameLastBand = some HV.sesameLastBand := table_eq rfl

theorem sesame_consts :
    Generated.sesameConsts = none ∨ Generated.sesameConsts = some HV.sesameConsts.toList := table_eq rfl

end HV.Bridge
