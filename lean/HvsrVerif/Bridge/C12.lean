import HvsrVerif.Generated.Tables
import HvsrVerif.Bridge.TableEq
/-! Bridge C12: the azimuth label written to the header and the regular expression the reader uses to find it (two groups, the
azimuth and the curve number, which `groupNumbered` of `Model/ObjectIO.lean` consumes: finding C12-d). -/
namespace HV.Bridge
theorem azimuth_label_format :
    Generated.azimuthLabelFormat = none ∨ Generated.azimuthLabelFormat = some "azimuth {azimuth} deg | hvsr curve {curve_idx}" := table_eq rfl
theorem azimuth_regex :
    Generated.azimuthRegex = none ∨
    Generated.azimuthRegex = some "azimuth (\\d+\\.?\\d*(?:[eE][-+]?\\d+)?) deg \\| hvsr curve (\\d+)" := table_eq rfl
end HV.Bridge
