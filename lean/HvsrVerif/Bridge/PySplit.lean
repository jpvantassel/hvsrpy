import HvsrVerif.Generated.PySplit
import HvsrVerif.Bridge.PyCommon
import HvsrVerif.Model.Split
import Mathlib.Algebra.Order.Floor.Ring
import Mathlib.Algebra.Order.Floor.Semifield
/-! Bridge: the window arithmetic of `TimeSeries.split` translated from timeseries.py = the model's `intervalsCode`,
`nWindows` and the `ValueError` guard of `Split.split` (see `Bridge/PyCommon.lean`). -/
namespace HV.Bridge
open HV.Generated HV.Split Classical

theorem py_round_eq (x : ℝ) : pyRoundHalfEven x = roundHalfEven x := rfl
theorem py_trunc_eq (x : ℝ) : pyTruncInt x = truncInt x := rfl

/-- `int(n / k)` of two naturals (as floats) is the natural-number quotient the model uses -/
theorem truncInt_div_nat (N k : ℕ) : truncInt ((N : ℝ) / (k : ℝ)) = ((N / k : ℕ) : ℤ) := by
  have hnn : ¬ ((N : ℝ) / (k : ℝ) < (Arith.ofNat 0 : ℝ)) := by
    rw [ofNat_real, Nat.cast_zero, not_lt]
    exact div_nonneg N.cast_nonneg k.cast_nonneg
  simp only [truncInt, hnn, if_false, floor_real, Int.floor_div_natCast, Int.floor_natCast, Int.natCast_ediv]

/-- `int(x)` of an integer-valued float is that integer -/
theorem truncInt_intCast (k : ℤ) : truncInt ((k : ℤ) : ℝ) = k := by
  simp only [truncInt, floor_real, ← Int.cast_neg, Int.floor_intCast, neg_neg, ite_self]

/-- `samples_per_window = int(n_intervals) + 1` with the model's recipe for the interval count, and
`n_windows = int(n_samples / (samples_per_window − 1))`, refused (`ValueError`) when it is below one -/
theorem py_split_counts : Py.split_counts.ok = false ∨
    ∀ (L dt : ℝ) (N : ℕ),
      Py.split_counts L dt (N : ℤ) =
        (let k := intervalsCode L dt
         let nw := truncInt ((N : ℝ) / (ofInt k : ℝ))
         if k = 0 then none                      -- n_samples / 0: ZeroDivisionError (the model's "zerodiv")
         else if nw < 1 then none else some (k + 1, nw)) := by
  bridge_cases
    intro L dt N
    simp only [Py.split_counts, intervalsCode, py_round_eq, py_trunc_eq, ofNat_real, Nat.cast_zero, zero_add, add_sub_cancel_right,
      ofInt_real', Int.cast_natCast]

/-- for a positive interval count the translated arithmetic is the model's: `k + 1` samples per window, `⌊N / k⌋` windows,
refusal exactly when `Split.split` refuses with "value". The left-hand side is what `py_split_counts` leaves of
`Py.split_counts L dt N` once `intervalsCode L dt = k ≠ 0` has decided its first `if`: rewrite with that, then with this. -/
theorem py_split_counts_model (L dt : ℝ) (N k : ℕ) (hk : 0 < k) (hcode : intervalsCode L dt = (k : ℤ)) :
    (let nw := truncInt ((N : ℝ) / (ofInt (intervalsCode L dt) : ℝ))
     if nw < 1 then (none : Option (ℤ × ℤ)) else some (intervalsCode L dt + 1, nw)) =
      if nWindows k N < 1 then none else some ((k : ℤ) + 1, (nWindows k N : ℤ)) := by
  simp only [hcode, ofInt_real', Int.cast_natCast, truncInt_div_nat, nWindows, Nat.cast_lt_one, Nat.lt_one_iff]

end HV.Bridge
