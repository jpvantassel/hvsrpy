import HvsrVerif.Generated.Tables
import HvsrVerif.Bridge.TableEq
/-! Bridge C03/C01: `nextpow2` (default minimum `2**15`, `if power_of_two > n`), `check_nyquist_frequency`
(`fnyq = 1/(2*dt)`, `if max(fcs) > fnyq`) and the policy names that `prepare_records_with_inconsistent_dt` compares
`handle_dissimilar_time_steps_by` with. Operator codes: 0 `<`, 1 `<=`, 2 `>`, 3 `>=`. -/
namespace HV.Bridge
theorem nextpow2_minimum : Generated.nextpow2Min = none ∨ Generated.nextpow2Min = some (2, 15) := table_eq rfl
theorem nextpow2_compare : Generated.nextpow2Cmp = none ∨ Generated.nextpow2Cmp = some 2 := table_eq rfl
theorem nyquist_guard_consts : Generated.nyquistGuard = none ∨ Generated.nyquistGuard = some ((2, 0), 2) := table_eq rfl
theorem policies :
    Generated.policyNames = none ∨ Generated.policyNames =
      some ["frequency_domain_resampling", "keeping_majority_time_step", "keeping_smallest_time_step"] := table_eq rfl
end HV.Bridge
