import HvsrVerif.Generated.PySpatial
import HvsrVerif.Bridge.PyCommon
import HvsrVerif.Model.Spatial
/-! Bridge: the two distribution conversions of `montecarlo_fn` translated from hvsr_spatial.py = the model's `mcPre` and
the back-transformation of `montecarlo` (see `Bridge/PyCommon.lean`). -/
namespace HV.Bridge
open HV.Generated Classical

/-- the two names `montecarlo_fn` accepts -/
def spDistName : SpDist → String
  | .normal => "normal"
  | .lognormal => "lognormal"

/-- draws → space of the spatial statistics: `exp` for lognormal generators with normal statistics, `log` for normal
generators with lognormal statistics, unchanged otherwise -/
theorem py_mc_to_spatial : Py.mc_to_spatial.ok = false ∨
    ∀ (g s : SpDist) (x : ℝ), Py.mc_to_spatial (spDistName g) (spDistName s) x = mcPre g s x := by
  bridge_cases
    intro g s x
    cases g <;> cases s <;> simp [Py.mc_to_spatial, spDistName, mcPre]

/-- results back: for lognormal statistics the mean and the realisations are exponentiated, the deviation is returned as is -/
theorem py_mc_from_spatial : Py.mc_from_spatial.ok = false ∨
    ∀ (s : SpDist) (m sd x : ℝ),
      Py.mc_from_spatial (spDistName s) m sd x =
        match s with
        | .lognormal => (Real.exp m, sd, Real.exp x)
        | .normal => (m, sd, x) := by
  bridge_cases
    intro s m sd x
    cases s <;> simp [Py.mc_from_spatial, spDistName]

end HV.Bridge
