import HvsrVerif.Generated.PySesame
import HvsrVerif.Bridge.PyCommon
import HvsrVerif.Props.C16
/-! Bridge (C16): the threshold chain, the reliability criteria i–iii and the clarity criteria iii–vi translated from `sesame.py`
= `thresholdBand` and the Boolean verdicts of the model's `reliability` / `clarity`; the index arithmetic of `trim_curve` = `trimIdxs`
(`py_trim_curve_indices`, by unfolding, and `py_trim_curve_model`).

The proofs of the first three theorems have one shape: the model side is put in the guideline's own numbers (`C16.threshold_table`, `C16.sesame_lits`), the translated
code is unfolded, `norm_num only` evaluates the literals of both sides — which closes the goal when the source has the comparisons in the
model's order. For a source that nests or orders them otherwise, every comparison is split and each leaf is `rfl` or contradictory (`py_logic`). -/
set_option linter.unusedTactic false
set_option linter.unreachableTactic false
namespace HV.Bridge
open HV.Generated Classical

theorem py_clarity_thresholds : Py.clarity_thresholds.ok = false ∨
    ∀ f0 : ℝ, Py.clarity_thresholds f0 = thresholdBand f0 := by
  bridge_cases
    intro f0
    rw [C16.threshold_table]
    simp only [Py.clarity_thresholds, Prod.mk.eta, lit_real, ofNat_real]
    norm_num only
    all_goals (split_ifs <;> py_logic)

/-- the numeric flag `criteria[k]` (0/1) that sesame.py fills in, as the model's Boolean verdict -/
def flag (b : Bool) : ℝ := if b then 1 else 0

theorem flag_decide (p : Prop) [Decidable p] : flag (decide p) = if p then 1 else 0 := by
  simp only [flag, decide_eq_true_eq]

/-- Reliability criteria i–iii as functions of the peak frequency `f0` of the mean curve and of the largest `σ_A` in the
band `(f0/2, 2·f0)`: exactly the three Booleans of the model's `reliability` (whose meaning is `RelSpec` in `Props/C16`). -/
theorem py_reliability_criteria : Py.reliability_criteria.ok = false ∨
    ∀ lw nw f0 smax : ℝ,
      Py.reliability_criteria lw nw f0 smax =
        (flag (decide (lit sesameConsts.relI / lw < f0)),
         flag (decide (lit sesameConsts.relII < lw * nw * f0)),
         flag (if lit sesameConsts.relIIIsplit < f0 then decide (smax < lit sesameConsts.relIIIa)
               else decide (smax < lit sesameConsts.relIIIb))) := by
  bridge_cases
    intro lw nw f0 smax
    simp only [apply_ite flag, flag_decide, C16.sesame_lits]
    simp only [Py.reliability_criteria, lit_real, ofNat_real, Prod.mk.injEq]
    norm_num only
    all_goals (repeat' constructor)
    all_goals (split_ifs <;> py_logic)

/-- Clarity criteria iii–vi as functions of the peak `(f0, a0)`, the peak frequencies of the ±σ curves, the standard
deviation of `fn` and `σ_A(f0)`: the Booleans `c3 … c6` of the model's `clarity`, thresholds from `thresholdBand`. -/
theorem py_clarity_criteria : Py.clarity_criteria.ok = false ∨
    ∀ f0 a0 fp fm fnStd sig : ℝ,
      Py.clarity_criteria f0 a0 fp fm fnStd sig =
        (flag (decide (lit sesameConsts.claIII < a0)),
         flag ((decide (f0 * lit sesameConsts.claIVlo < fp) && decide (fp < f0 * lit sesameConsts.claIVhi)) &&
               (decide (f0 * lit sesameConsts.claIVlo < fm) && decide (fm < f0 * lit sesameConsts.claIVhi))),
         flag (decide (fnStd < (thresholdBand f0).1 * f0)),
         flag (decide (sig < (thresholdBand f0).2))) := by
  bridge_cases
    intro f0 a0 fp fm fnStd sig
    simp only [← Bool.decide_and, flag_decide, C16.sesame_lits, C16.threshold_table]
    simp only [Py.clarity_criteria, Prod.mk.eta, lit_real, ofNat_real, decide_eq_true_eq, Prod.mk.injEq]
    norm_num only
    all_goals (repeat' constructor)
    all_goals (split_ifs <;> py_logic)

/-- `trim_curve`, translated from the source: the limits are the minimum and the maximum of the pair (in either order), the distances are taken to those
limits, and the slice runs from the first sample nearest to the lower limit through (inclusive: `+ 1`) the first sample nearest to the upper limit --
`trimIdxs` of the model with `nearestIdx` for the two first-nearest samples -/
theorem py_trim_curve_indices : Py.trim_curve_indices.ok = false ∨
    ∀ (a b f : ℝ) (iLow iUpp : ℤ),
      Py.trim_curve_indices a b f iLow iUpp = (minA a b, maxA a b, |f - minA a b|, |f - maxA a b|, iLow, iUpp + 1) := by
  bridge_cases
    intro a b f iLow iUpp
    simp only [Py.trim_curve_indices, minA, maxA, absA_real]

/-- the model's `trimIdxs` displayed in the terms of `py_trim_curve_indices`: the same two limits and the same `+ 1`, with `nearestIdx` for the
two first-nearest indices that the translated slice takes as inputs -/
theorem py_trim_curve_model (freq : List ℝ) (a b : ℝ) :
    trimIdxs freq a b = (nearestIdx freq (minA a b), nearestIdx freq (maxA a b) + 1) := rfl

end HV.Bridge
