import HvsrVerif.Generated.PyOrient
import HvsrVerif.Bridge.PyCommon
import HvsrVerif.Proofs.Degrees
/-! Bridge: `SeismicRecording3C.orient_sensor_to` translated from seismic_recording_3c.py = `orientSample`/`degNorm` (what a
bridge theorem says, and the tactic `bridge_cases`: header of `Bridge/PyCommon.lean`) -/
/- linter options: the `first | … | …` arms are fallbacks for a rewritten source (the comparison `360 ≤ rem` may arrive as a
hypothesis, as an `if`, or inside the pair), see the header of `Bridge/PyCommon.lean` -/
set_option linter.unusedSimpArgs false
set_option linter.unusedTactic false
set_option linter.unreachableTactic false
namespace HV.Bridge
open HV.Generated Classical

/-- the remainder of the floor division by 360 never reaches 360: the repaired rounding case cannot occur over `ℝ` -/
theorem floor_rem_lt (d : ℝ) : ¬ ((360 : ℝ) ≤ d - 360 * (⌊d / 360⌋ : ℝ)) := by
  have h := (degNorm_range d).2
  rw [degNorm_real, mul_comm] at h
  exact not_le.mpr h

/-- `SeismicRecording3C.orient_sensor_to`: new samples are the model's rotation, the stored orientation is the
model's normalisation `degNorm` (with the repaired rounding case `360.0 ↦ 0`, which cannot occur over `ℝ`). -/
theorem py_orient_sensor_to : Py.orient_sensor_to.ok = false ∨
    ∀ new cur ns ew : ℝ,
      ((Py.orient_sensor_to new cur ns ew).1, (Py.orient_sensor_to new cur ns ew).2.1) = orientSample cur new (ns, ew) ∧
      (Py.orient_sensor_to new cur ns ew).2.2 = degNorm new := by
  bridge_cases
    intro new cur ns ew
    have hlt := floor_rem_lt new
    simp only [Py.orient_sensor_to, orientSample, degNorm, py_radians, cos_real, sin_real, ofNat_real, py_floordiv, ofInt_real', floor_real, lit_real]
    try norm_num
    all_goals first
      | (intro h; exact absurd h hlt)
      | (split_ifs with h
         · exact absurd h hlt
         · refine ⟨?_, ?_⟩ <;> first | rfl | (simp <;> ring_nf))
      | (refine ⟨?_, ?_⟩ <;> first | rfl | (intro h; exact absurd h hlt) | (simp <;> ring_nf))

/-- `SeismicRecording3C.__init__` stores `degNorm` of the orientation it is given (the repaired `360.0 ↦ 0` case cannot occur over `ℝ`) -/
theorem py_init_orientation : Py.init_orientation.ok = false ∨
    ∀ d : ℝ, Py.init_orientation d = degNorm d := by
  bridge_cases
    intro d
    have hlt := floor_rem_lt d
    simp only [Py.init_orientation, degNorm, ofNat_real, py_floordiv, ofInt_real', floor_real, lit_real]
    try norm_num
    all_goals first
      | (intro h; exact absurd h hlt)
      | (split_ifs with h
         · exact absurd h hlt
         · first | rfl | ring_nf)
      | rfl

end HV.Bridge
