import HvsrVerif.Generated.Tables
import HvsrVerif.Model.Process
import HvsrVerif.Bridge.TableEq
/-! Bridge C01: the three registers of processing.py (sorted by key): every alias is bound to the function the
model uses for it. -/
namespace HV.Bridge
theorem combine_register :
    Generated.combineRegister = none ∨ Generated.combineRegister = some HV.combineRegister := table_eq rfl
theorem traditional_register :
    Generated.traditionalRegister = none ∨ Generated.traditionalRegister = some HV.traditionalRegister := table_eq rfl
theorem processing_methods :
    Generated.processingMethods = none ∨ Generated.processingMethods = some HV.processingMethods := table_eq rfl
end HV.Bridge
