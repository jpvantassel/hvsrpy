import HvsrVerif.Generated.PyPsd
import HvsrVerif.Bridge.PyCommon
import HvsrVerif.Model.Process
/-! Bridge: the normalisation chain of `_rpds_single_component` translated from processing.py = the factor the model's
`psdComponent` applies to every accumulated bin (what a bridge theorem says, and the tactics `bridge_cases`, `py_arith`:
header of `Bridge/PyCommon.lean`). -/
namespace HV.Bridge
open HV.Generated Classical

/-- the per-bin scaling of `psdComponent`: taper power, number of samples, sampling rate, factor 2 (one-sided), number of windows -/
noncomputable def psdScale (p tp L fs k : ℝ) : ℝ := p / tp / L / fs * 2 / k

theorem py_psd_scaling : Py.psd_scaling.ok = false ∨
    ∀ p tp L fs k : ℝ, Py.psd_scaling p tp L fs k = psdScale p tp L fs k := by
  bridge_cases
    intro p tp L fs k
    simp only [Py.psd_scaling, psdScale]
    py_arith

/-- `psdScale` is literally what the model applies (definitional unfolding of `psdComponent`) -/
theorem psdComponent_uses_psdScale (width : ℝ) (n : Nat) (dt : ℝ) (wins : List (List ℝ)) :
    psdComponent width n dt wins =
      (wins.foldl (fun acc x => (List.zip acc (powSpec (taper width x) n)).map (fun p => p.1 + p.2))
        (List.replicate (n / 2 + 1) (0 : ℝ))).map
        (fun p => psdScale p (taperPower width (wins.getLastD []).length) ((wins.getLastD []).length : ℝ) (1 / dt) (wins.length : ℝ)) := by
  simp only [psdComponent, psdScale, ofNat_real, Nat.cast_zero, Nat.cast_one, Nat.cast_ofNat]

end HV.Bridge
