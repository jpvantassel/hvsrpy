import HvsrVerif.Generated.PyWeights
import HvsrVerif.Bridge.PyCommon
import HvsrVerif.Model.HvAz
/-! Bridge (C11): the body of the loop of `HvsrAzimuthal._compute_statistical_weights`, translated from `hvsr_azimuthal.py` on every run, is the step of
the model's `chengWeightsFor`: an azimuth with `c` accepted entries contributes `c` copies of `1/(n_azimuths·c)`, and `c = 0` is the `ZeroDivisionError`.
For the pair `py_cheng_weights_step` / `cheng_step_model` see the header of `Bridge/PyCommon.lean`. -/
namespace HV.Bridge
open HV.Generated

theorem py_cheng_weights_step : Py.cheng_weights_step.ok = false ∨
    ∀ (naz c : ℕ), Py.cheng_weights_step (α := ℝ) (naz : ℤ) (c : ℤ) =
      if naz * c = 0 then none else some ((1 : ℝ) / ((naz * c : ℕ) : ℝ), (c : ℤ)) := by
  bridge_cases
    intro naz c
    have hz : (naz : ℤ) * (c : ℤ) = ((naz * c : ℕ) : ℤ) := (Nat.cast_mul naz c).symm
    simp only [Py.cheng_weights_step, hz, Int.natCast_eq_zero, ofInt_real, Int.cast_natCast, ofNat_real, Nat.cast_one]

/-- one step of the model's fold in the same terms: for at least one azimuth, the model fails exactly when the translated step raises, and otherwise
prepends `count` copies of `value` -/
theorem cheng_step_model (naz c : ℕ) (hnaz : 0 < naz) (ws : List ℝ) :
    (if c = 0 then (Except.error "zerodiv" : Except String (List ℝ)) else .ok (List.replicate c ((n# 1) / (n# (naz * c))) ++ ws)) =
      (match (if naz * c = 0 then (none : Option (ℝ × ℤ)) else some ((1 : ℝ) / ((naz * c : ℕ) : ℝ), (c : ℤ))) with
       | none => .error "zerodiv"
       | some (v, k) => .ok (List.replicate k.toNat v ++ ws)) := by
  by_cases hc : c = 0
  · subst hc; rfl
  · rw [if_neg hc, if_neg (Nat.mul_ne_zero (Nat.pos_iff_ne_zero.mp hnaz) hc)]
    simp only [ofNat_real, Nat.cast_one, Int.toNat_natCast]

end HV.Bridge
