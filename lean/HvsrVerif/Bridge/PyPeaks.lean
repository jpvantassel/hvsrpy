import HvsrVerif.Generated.PyPeaks
import HvsrVerif.Bridge.PyCommon
import HvsrVerif.Model.Peaks
/-! Bridge: `HvsrCurve._search_range_to_index_range` translated from hvsr_curve.py = the model's `rangeToIdx`
(see `Bridge/PyCommon.lean`): `None` is the only open end of a search range (a limit of `0` is a limit), a lower limit
selects the nearest sample, an upper limit the nearest sample inclusive. `nearest_*` stand for
`np.argmin(np.abs(frequency - limit))`; for a limit that is `None` they are passed at the arbitrary default `getD 0`
(the translated function does not read them then). -/
namespace HV.Bridge
open HV.Generated Classical

theorem py_search_range_to_index_range : Py.search_range_to_index_range.ok = false ∨
    ∀ (freq : List ℝ) (r : Option ℝ × Option ℝ),
      Py.search_range_to_index_range r.1 r.2
          ((nearestIdx freq (r.1.getD 0) : ℕ) : ℤ) ((nearestIdx freq (r.2.getD 0) : ℕ) : ℤ) (freq.length : ℤ) =
        ((((rangeToIdx freq r).1 : ℕ) : ℤ), (((rangeToIdx freq r).2 : ℕ) : ℤ)) := by
  bridge_cases
    intro freq r
    obtain ⟨lo, hi⟩ := r
    cases lo <;> cases hi <;> simp [Py.search_range_to_index_range, rangeToIdx]

end HV.Bridge
