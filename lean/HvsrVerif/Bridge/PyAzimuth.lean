import HvsrVerif.Generated.PyAzimuth
import HvsrVerif.Bridge.PyCommon
/-! Bridge: `single_azimuth` translated from processing.py = `singleAzimuth` (see `Bridge/PyCommon.lean`) -/
-- linter option: `py_arith` is the fallback for a rewritten source (header of `Bridge/PyCommon.lean`)
set_option linter.unusedTactic false
namespace HV.Bridge
open HV.Generated Classical

theorem py_single_azimuth : Py.single_azimuth.ok = false ∨
    ∀ ns ew deg : ℝ, Py.single_azimuth ns ew deg = singleAzimuth deg ns ew := by
  bridge_cases
    intro ns ew deg
    simp only [Py.single_azimuth, singleAzimuth, py_radians, cos_real, sin_real]
    py_arith

end HV.Bridge
