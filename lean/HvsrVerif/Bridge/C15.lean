import HvsrVerif.Generated.Tables
import HvsrVerif.Model.Settings
import HvsrVerif.Bridge.TableEq
/-!
# Bridge C15: the class table, the reader's dispatch chain and the method register of the model
are the ones of `hvsrpy/settings.py`, `hvsrpy/object_io.py`, `hvsrpy/processing.py`

The tables come from `extract_settings` of `tools/extract_tables.py`. The last theorem decides the
hypothesis of `HV.C15.noninterference` on the model's table.
-/
namespace HV.Bridge
open HV.Settings

/-- per class: `self.attrs`, kind of each default value, how each argument is stored -/
theorem settings_table :
    Generated.settingsTable = none ∨ Generated.settingsTable = some HV.Settings.settingsTable := table_eq rfl

/-- the if/elif chain of `read_settings_object_from_file` -/
theorem settings_dispatch :
    Generated.settingsDispatch = none ∨ Generated.settingsDispatch = some HV.Settings.dispatchTable := table_eq rfl

/-- `TRADITIONAL_PROCESSING_REGISTER`: registered `method_to_combine_horizontals` ↦ processing function -/
theorem settings_traditional_register :
    Generated.settingsTraditionalRegister = none ∨
      Generated.settingsTraditionalRegister = some HV.Settings.traditionalRegister := table_eq rfl

/-- every parameter with a mutable default is stored by a copy deep enough for its kind -/
theorem settings_table_ok : tableOK settingsParams = true := rfl

end HV.Bridge
