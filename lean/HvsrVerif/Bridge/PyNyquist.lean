import HvsrVerif.Generated.PyNyquist
import HvsrVerif.Bridge.PyCommon
import HvsrVerif.Model.Rows
/-! Bridge: `check_nyquist_frequency` translated from processing.py = the model's `nyquistRefuses`
(see `Bridge/PyCommon.lean`); `fmax` stands for `max(fcs)`. -/
namespace HV.Bridge
open HV.Generated Classical

theorem py_check_nyquist_frequency : Py.check_nyquist_frequency.ok = false ∨
    ∀ (dt f : ℝ) (fs : List ℝ),
      (Py.check_nyquist_frequency dt (fs.foldl maxA f)).isNone = nyquistRefuses dt (f :: fs) := by
  bridge_cases
    intro dt f fs
    simp only [Py.check_nyquist_frequency, nyquistRefuses, ofNat_real, Nat.cast_one, Nat.cast_ofNat]
    split_ifs <;> py_logic

end HV.Bridge
