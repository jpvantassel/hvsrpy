import HvsrVerif.Bridge.PyVec
import HvsrVerif.Props.C06Spec
/-!
# From the Python source to the published rejection bounds (C06)

`Bridge/PyVec.lean::py_trad_nth_state` says that the function translated from the source of `HvsrTraditional.nth_std_fn_frequency` is the model's
`nthStdFn`; `Props/C06Spec.lean::bounds_lognormal / bounds_normal` say that `nthStdFn` is the textbook expression. Composed: what the Python source
computes for `nth_std_fn_frequency(±n, distribution)` — the two bounds the frequency-domain algorithm rejects against — is
`exp(μ_ln ± n σ_ln)` resp. `μ ± n σ` of the currently valid peak frequencies (N − 1 estimator), for every state with at least two valid peaks.
-/
namespace HV.Bridge
open HV.Generated HV.C06 Classical

theorem py_bounds_lognormal : (PyVec.trad_nth_std_fn_frequency.ok && PyVec.trad_nth_std_fn_amplitude.ok && PyVec.trad_mean_fn_frequency.ok &&
      PyVec.trad_mean_fn_amplitude.ok && PyVec.trad_std_fn_frequency.ok && PyVec.trad_std_fn_amplitude.ok && PyVec.nanmean_weighted.ok && PyVec.nanstd_weighted.ok) = false ∨
    ∀ (k : ℝ) (name : String) (s : HvTrad ℝ), Dist.ofString name = some .lognormal → 2 ≤ (validFreqs s).length →
      PyVec.trad_nth_std_fn_frequency distributionMap (some k) name (s.peaks.map (fun p => p.map (·.1))) s.vPeak =
        some (let L := (validFreqs s).map Real.log
              let μ := L.sum / (L.length : ℝ)
              let σ := Real.sqrt ((L.map (fun x => (x - μ) ^ 2)).sum / ((L.length : ℝ) - 1))
              some (Real.exp (μ + k * σ))) := by
  bridge_cases
    intro k name s hd h2
    rw [(of_ok py_trad_nth_state rfl k name .lognormal s hd).1, bounds_lognormal k s h2]

theorem py_bounds_normal : (PyVec.trad_nth_std_fn_frequency.ok && PyVec.trad_nth_std_fn_amplitude.ok && PyVec.trad_mean_fn_frequency.ok &&
      PyVec.trad_mean_fn_amplitude.ok && PyVec.trad_std_fn_frequency.ok && PyVec.trad_std_fn_amplitude.ok && PyVec.nanmean_weighted.ok && PyVec.nanstd_weighted.ok) = false ∨
    ∀ (k : ℝ) (name : String) (s : HvTrad ℝ), Dist.ofString name = some .normal → 2 ≤ (validFreqs s).length →
      PyVec.trad_nth_std_fn_frequency distributionMap (some k) name (s.peaks.map (fun p => p.map (·.1))) s.vPeak =
        some (let L := validFreqs s
              let μ := L.sum / (L.length : ℝ)
              let σ := Real.sqrt ((L.map (fun x => (x - μ) ^ 2)).sum / ((L.length : ℝ) - 1))
              some (μ + k * σ)) := by
  bridge_cases
    intro k name s hd h2
    rw [(of_ok py_trad_nth_state rfl k name .normal s hd).1, bounds_normal k s h2]

end HV.Bridge
