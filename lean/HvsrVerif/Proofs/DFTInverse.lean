import HvsrVerif.Proofs.DFTLemmas
/-!
Fourier inversion for the model's real DFT: from root-of-unity orthogonality (`orth`), folded onto the
half spectrum `0 … n/2` that `rfft` returns (`halfSum`). For an even length `n = 2h` the fold ends in the Nyquist bin `h`;
for an odd length `n = 2h + 1` there is none, every bin `1 ≤ k ≤ h` has the mirror bin `n − k` in `h + 1 … 2h`.
-/
open Finset Real

namespace HV
noncomputable section

/-- the real part of `X_k ζ^{kj}` in terms of the model's `(re, im)` pair -/
def T (x : List ℝ) (n k j : ℕ) : ℝ :=
  dftRe x n k * Real.cos (2 * π * (k * j : ℕ) / n) - dftIm x n k * Real.sin (2 * π * (k * j : ℕ) / n)

theorem T_zero (x : List ℝ) (n j : ℕ) : T x n 0 j = dftRe x n 0 := by
  rw [T, Nat.zero_mul, Nat.cast_zero, mul_zero, zero_div, Real.cos_zero, Real.sin_zero, mul_one, mul_zero, sub_zero]

theorem T_nyquist (x : List ℝ) (n j : ℕ) (h2 : n % 2 = 0) :
    T x n (n / 2) j = dftRe x n (n / 2) * Real.cos (2 * π * ((n / 2 * j : ℕ) : ℝ) / n) := by
  rw [T, sin_nyquist n j h2, mul_zero, sub_zero]

theorem real_inversion (x : List ℝ) (n : ℕ) (hlen : x.length ≤ n) (j : ℕ) (hj : j < n) :
    ∑ k ∈ range n, T x n k j = n * padR x j := by
  have e : ∀ k, T x n k j = (cdft n (fun j => ((padR x j : ℝ) : ℂ)) k * (ζ n) ^ (k * j)).re := fun k => by
    rw [← dft_eq_cdft x n k hlen, zeta_pow_eq n (k * j), T]
    simp only [Complex.mul_re, Complex.add_re, Complex.add_im, Complex.mul_im, Complex.ofReal_re, Complex.ofReal_im,
      Complex.I_re, Complex.I_im]
    ring
  simp only [e, ← Complex.re_sum]
  rw [cdft_inversion n _ j hj, ← Complex.ofReal_natCast, ← Complex.ofReal_mul, Complex.ofReal_re]

theorem T_mirror (x : List ℝ) (n k j : ℕ) (hn : n ≠ 0) (hk : k ≤ n) : T x n (n - k) j = T x n k j := by
  obtain ⟨s1, s2⟩ := dft_symm x n k hn hk
  rw [T, s1, s2, mirror_angle n k j hn hk, Real.cos_nat_mul_two_pi_sub, Real.sin_nat_mul_two_pi_sub, T]
  ring

theorem half_inversion_gen (x : List ℝ) (n : ℕ) (hlen : x.length ≤ n) (j : ℕ) (hj : j < n) :
    halfSum n (T x n · j) = n * padR x j := by
  have hn : n ≠ 0 := (Nat.zero_lt_of_lt hj).ne'
  rw [← real_inversion x n hlen j hj, sum_range_mirror n (T x n · j) (fun k hk => T_mirror x n k j hn hk) hn]

/-- **Inversion from the half spectrum**, even length `n = 2h`. -/
theorem half_inversion (x : List ℝ) (h : ℕ) (hh : 1 ≤ h) (hlen : x.length ≤ 2 * h) (j : ℕ) (hj : j < 2 * h) :
    T x (2 * h) 0 j + 2 * ∑ k ∈ Finset.Ico 1 h, T x (2 * h) k j + T x (2 * h) h j = (2 * h : ℕ) * padR x j := by
  rw [← half_inversion_gen x (2 * h) hlen j hj, halfSum_even]

/-- **Inversion from the half spectrum**, odd length `n = 2h + 1`: no Nyquist term. -/
theorem half_inversion_odd (x : List ℝ) (h : ℕ) (hlen : x.length ≤ 2 * h + 1) (j : ℕ) (hj : j < 2 * h + 1) :
    padR x j = (T x (2 * h + 1) 0 j + 2 * ∑ k ∈ Finset.Ico 1 (h + 1), T x (2 * h + 1) k j) / ((2 * h + 1 : ℕ) : ℝ) := by
  rw [← halfSum_odd h (T x (2 * h + 1) · j), half_inversion_gen x (2 * h + 1) hlen j hj,
    mul_div_cancel_left₀ _ (Nat.cast_ne_zero.mpr (Nat.succ_ne_zero _))]

end
end HV
