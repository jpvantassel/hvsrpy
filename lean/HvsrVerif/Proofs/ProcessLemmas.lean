import HvsrVerif.Proofs.ListLemmas
import HvsrVerif.Proofs.ExceptLemmas
import HvsrVerif.Model.Process
import HvsrVerif.Proofs.CliLemmas
/-! the two models of `nextpow2` (fuel in `Model/Process.lean`, well-founded in `Model/Cli.lean`) compute the same number;
what a successful run of `processTraditional` consists of -/
namespace HV

theorem two_mul_mul_two_pow (p i : ℕ) : 2 * p * 2 ^ i = p * 2 ^ (i + 1) := by
  rw [pow_succ', ← Nat.mul_assoc, Nat.mul_comm p 2]

/-- the fuel `n + 1` of `nextpow2` suffices -/
theorem lt_mul_two_pow (n min : ℕ) (hmin : 1 ≤ min) : n < min * 2 ^ (n + 1) :=
  (Nat.lt_two_pow_self.trans (Nat.pow_lt_pow_right Nat.one_lt_two n.lt_succ_self)).trans_le
    (Nat.le_mul_of_pos_left _ hmin)

theorem nextpow2Aux_eq_loop (k n p : ℕ) (hp : 0 < p) (h : n < p * 2 ^ k) : nextpow2Aux k p n = Cli.nextpow2Loop n p hp := by
  induction k generalizing p with
  | zero => rw [Cli.nextpow2Loop, if_pos (by simpa using h)]; rfl
  | succ k ih =>
    rw [Cli.nextpow2Loop]; unfold nextpow2Aux
    split
    · rfl
    · rw [ih (2 * p) (Nat.mul_pos Nat.two_pos hp) (by rwa [two_mul_mul_two_pow])]
      simp only [Nat.mul_comm]

theorem nextpow2_eq_cli (n min : ℕ) (hmin : 0 < min) : nextpow2 n min = Cli.nextpow2 n min hmin :=
  nextpow2Aux_eq_loop (n + 1) n min hmin (lt_mul_two_pow n min hmin)

/-- Inversion of `processTraditional`. First what the result records (the stored FFT state, the kept indices), then, with
`krecs` the kept records: the Nyquist guard passed for their largest time step, and the rows are what `processRows`
gathers from `curve`, which is `hvsrRow` on every kept record. -/
theorem processTraditional_ok {m : Method ℝ} {cfg : ProcCfg ℝ} {fft : FftState} {pol : Policy}
    {recs : List (Rec3 ℝ)} {r : ProcResult ℝ} (h : processTraditional m cfg fft pol recs = .ok r) :
    r.fft = prepareFft fft (maxSamples recs) ∧ r.kept = keptIndices pol (recs.map (·.dt)) ∧
    ∃ n krecs, (prepareFft fft (maxSamples recs)).len = some n ∧ krecs = r.kept.filterMap (fun i => recs[i]?) ∧
      (∃ dmax, maxDt (krecs.map (·.dt)) = some dmax ∧ nyquistRefuses dmax cfg.fcs = false) ∧
      ∃ curve, (∀ i x, krecs[i]? = some x → curve i = hvsrRow m cfg n x) ∧
        (r.rows.map Except.ok : List (Except String (List ℝ))) = processRows curve (krecs.map (·.dt)) := by
  unfold processTraditional at h
  dsimp only at h
  split at h
  · cases h
  rename_i n hn
  split at h
  · cases h
  rename_i dmax hd
  split at h
  · cases h
  rename_i hny
  split at h
  · cases h
  rename_i rs hrs
  cases h
  -- `curve` is the model's own `fun i => match krecs[i]? with | some r => hvsrRow m cfg n r | none => .error "index"`,
  -- left to unification with `hrs`: a `match` written here would be another matcher
  refine ⟨rfl, rfl, n, _, hn, rfl, ⟨dmax, hd, Bool.eq_false_of_not_eq_true hny⟩, _, fun i x hx => ?_,
    (mapM_eq_ok _ _ _ hrs).symm.trans (List.map_id' _)⟩
  simp only [hx]

end HV
