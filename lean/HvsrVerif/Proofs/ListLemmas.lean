import HvsrVerif.Proofs.RealInst
import HvsrVerif.Model.Sesame
/-! the models' folds over `ℝ` (`maxA`, `minA`, `maxL`, `sumA`) in terms of `max`, `min` and `List.sum`; after them the
facts about plain lists (`filterMap`, sums over `flatMap` and of quotients) that several regions share -/
namespace HV

theorem foldl_and_iff {α β : Type} {op : α → β → α} {P : α → Prop} {Q : β → Prop}
    (hop : ∀ a b, P (op a b) ↔ P a ∧ Q b) (l : List β) (x : α) : P (l.foldl op x) ↔ P x ∧ ∀ y ∈ l, Q y := by
  induction l generalizing x with
  | nil => simp
  | cons a l ih => simp only [List.foldl_cons, ih, hop, List.mem_cons, forall_eq_or_imp, and_assoc]

theorem foldl_maxA_lt_iff (l : List ℝ) (x t : ℝ) :
    l.foldl maxA x < t ↔ x < t ∧ ∀ y ∈ l, y < t :=
  foldl_and_iff (P := (· < t)) (fun a b => maxA_real a b ▸ max_lt_iff) l x

theorem foldl_maxA_le_iff (l : List ℝ) (x t : ℝ) : l.foldl maxA x ≤ t ↔ x ≤ t ∧ ∀ y ∈ l, y ≤ t :=
  foldl_and_iff (P := (· ≤ t)) (fun a b => maxA_real a b ▸ max_le_iff) l x

theorem le_foldl_minA_iff (l : List ℝ) (x t : ℝ) : t ≤ l.foldl minA x ↔ t ≤ x ∧ ∀ y ∈ l, t ≤ y :=
  foldl_and_iff (P := (t ≤ ·)) (fun a b => minA_real a b ▸ le_min_iff) l x

theorem maxL_lt_iff {l : List ℝ} {m : ℝ} (h : maxL l = some m) (t : ℝ) :
    m < t ↔ ∀ y ∈ l, y < t := by
  cases l with
  | nil => cases h
  | cons a l => cases h; simp only [foldl_maxA_lt_iff, List.mem_cons, forall_eq_or_imp]

theorem maxL_none_iff {l : List ℝ} : maxL l = none ↔ l = [] := by
  cases l <;> simp [maxL]

theorem foldl_add_eq (l : List ℝ) (x : ℝ) : l.foldl (· + ·) x = x + l.sum :=
  List.foldl_eq_apply_foldr -- `List.sum` is by definition `foldr (· + ·) 0`

theorem sumA_real (l : List ℝ) : sumA l = l.sum := by
  rw [sumA, foldl_add_eq, ofNat_real, Nat.cast_zero, zero_add]

theorem filterMap_getElem_map {β γ : Type} (f : β → γ) (l : List β) (idx : List ℕ) :
    idx.filterMap (fun i => (l.map f)[i]?) = (idx.filterMap (fun i => l[i]?)).map f := by
  simp only [List.getElem?_map, List.map_filterMap]

theorem sum_map_flatMap {β γ : Type} (g : β → List γ) (h : γ → ℝ) (l : List β) :
    ((l.flatMap g).map h).sum = (l.map (fun a => ((g a).map h).sum)).sum := by
  rw [List.map_flatMap, List.flatMap_def, List.sum_flatten, List.map_map]; rfl

theorem sum_map_div {β : Type} (f : β → ℝ) (c : ℝ) (l : List β) :
    (l.map (fun a => f a / c)).sum = (l.map f).sum / c := by
  simp only [div_eq_mul_inv, List.sum_map_mul_right]

end HV
