import HvsrVerif.Proofs.ListLemmas
import HvsrVerif.Model.Spatial
import Mathlib.Algebra.BigOperators.Group.List.Basic
import Mathlib.Analysis.Convex.Hull
import Mathlib.Analysis.Convex.Segment
/-!
# Lemmas about `Model/Spatial.lean` over `ℝ` (C14)

* `_statistics` / `montecarlo_fn`: the folds are list sums; what `statistics = some _` entails.
* clipping: `hpVal` is affine, so what `clipHalfPlane` emits lies in the half-plane and in the convex hull of
  the input vertices.
* `Sim φ k`: maps of the plane under which every step of the weight computation is equivariant;
  `p ↦ s·p + t` with `s > 0` (translations, positive uniform scalings) is one.
-/
namespace HV

/-! ## statistics -/

theorem foldSum_real {β : Type} (f : β → ℝ) (l : List β) : foldSum f l = (l.map f).sum := by
  rw [← sumA_real, sumA, List.foldl_map]; rfl

theorem sum_map_mul_left' {β : Type} (f : β → ℝ) (c : ℝ) (l : List β) :
    (l.map (fun a => c * f a)).sum = c * (l.map f).sum :=
  List.sum_map_mul_left l f c

theorem normWeights_real (w : List ℝ) : normWeights w = w.map (fun x => x / w.sum) := by
  unfold normWeights; rw [sumA_real]

/-- an accepted `statisticsN`: the last zipped row `z` supplies the divisor `len(row_value)`, both of its tests fail,
and mean and deviation are the list sums of `_statistics` -/
theorem statisticsN_some {values : List (List ℝ)} {nw : List ℝ} {m sd : ℝ}
    (h : statisticsN values nw = some (m, sd)) :
    ∃ z, (List.zip values nw).getLast? = some z ∧ (z.1.length : ℝ) ≠ 0 ∧
      m = ((List.zip values nw).map (fun z => z.2 * z.1.sum)).sum / z.1.length ∧
      1 - ((List.zip values nw).map (fun z => z.2 * z.2)).sum / z.1.length ≠ 0 ∧
      sd = Real.sqrt ((((List.zip values nw).map
              (fun z => z.2 * (z.1.map (fun x => (x - m) * (x - m))).sum)).sum / z.1.length) /
            (1 - ((List.zip values nw).map (fun z => z.2 * z.2)).sum / z.1.length)) := by
  unfold statisticsN at h
  dsimp only at h
  split at h
  · cases h
  · rename_i z hz
    simp only [statMean, statNumerator, statW2, sqDev, foldSum_real, sumA_real, ofNat_real, Nat.cast_one,
      Nat.cast_zero, eqA_decide, sqrt_real, Bool.or_eq_true, decide_eq_true_eq] at h
    split_ifs at h with hg  -- the refusing branch, `none = some _`, is closed by `split_ifs` itself
    obtain ⟨rfl, rfl⟩ := Prod.mk.inj (Option.some.inj h)
    exact ⟨z, hz, fun h0 => hg (.inl (.inl h0)), rfl, fun h0 => hg (.inl (.inr h0)), rfl⟩

/-- all realisations of all locations as one weighted sample `(u, x)`: a realisation `x` of location `i` carries
`u = (wᵢ/Σw)/N`, the location's normalised weight shared among its `N` realisations -/
noncomputable def samples (values : List (List ℝ)) (w : List ℝ) (N : ℕ) : List (ℝ × ℝ) :=
  (List.zip values w).flatMap (fun rw => rw.1.map (fun x => (rw.2 / w.sum / N, x)))

theorem statistics_some {values : List (List ℝ)} {w : List ℝ} {N : ℕ} {m sd : ℝ}
    (hrows : ∀ r ∈ values, r.length = N) (h : statistics values w = some (m, sd)) :
    w.sum ≠ 0 ∧ (N : ℝ) ≠ 0 ∧
      m = ((List.zip values (normWeights w)).map (fun z => z.2 * z.1.sum)).sum / N ∧
      sd = Real.sqrt ((((List.zip values (normWeights w)).map
              (fun z => z.2 * (z.1.map (fun x => (x - m) * (x - m))).sum)).sum / N) /
            (1 - ((List.zip values (normWeights w)).map (fun z => z.2 * z.2)).sum / N)) := by
  simp only [statistics, eqA_zero, sumA_real, decide_eq_true_eq] at h
  split at h
  · cases h
  · rename_i hS
    obtain ⟨z, hz, hn0, hm, -, hsd⟩ := statisticsN_some h
    rw [hrows z.1 (List.of_mem_zip (a := z.1) (b := z.2) (List.mem_of_getLast? hz)).1] at hn0 hm hsd
    exact ⟨hS, hn0, hm, hsd⟩

theorem sum_samples (values : List (List ℝ)) (w : List ℝ) (N : ℕ) (F : ℝ → ℝ → ℝ) :
    ((samples values w N).map (fun s => F s.1 s.2)).sum =
      ((List.zip values (normWeights w)).map (fun z => (z.1.map (F (z.2 / N))).sum)).sum := by
  unfold samples
  rw [sum_map_flatMap, normWeights_real, List.zip_map_right, List.map_map]
  simp only [List.map_map, Function.comp_def, Prod.map, id]

theorem sum_samples_mul (values : List (List ℝ)) (w : List ℝ) (N : ℕ) (g : ℝ → ℝ) :
    ((samples values w N).map (fun s => s.1 * g s.2)).sum =
      ((List.zip values (normWeights w)).map (fun z => z.2 * (z.1.map g).sum)).sum / N := by
  rw [sum_samples values w N (fun u x => u * g x), ← sum_map_div]
  congr 1
  apply List.map_congr_left
  intro z _
  rw [sum_map_mul_left', mul_div_right_comm]

theorem sum_samples_const {values : List (List ℝ)} (w : List ℝ) {N : ℕ} (hrows : ∀ r ∈ values, r.length = N)
    (c : ℝ → ℝ) :
    ((samples values w N).map (fun s => c s.1)).sum =
      ((List.zip values (normWeights w)).map (fun z => N * c (z.2 / N))).sum := by
  rw [sum_samples values w N (fun u _ => c u)]
  congr 1
  apply List.map_congr_left
  intro z hz
  rw [List.map_const', List.sum_replicate, hrows z.1 (List.of_mem_zip (a := z.1) (b := z.2) hz).1, nsmul_eq_mul]

theorem normWeights_scale (w : List ℝ) (c : ℝ) (hc : c ≠ 0) :
    normWeights (w.map (fun x => c * x)) = normWeights w := by
  rw [normWeights_real, normWeights_real, List.map_map, sum_map_mul_left' (fun x => x) c w, List.map_id']
  exact List.map_congr_left fun x _ => mul_div_mul_left _ _ hc

theorem statistics_scale (values : List (List ℝ)) (w : List ℝ) (c : ℝ) (hc : c ≠ 0) :
    statistics values (w.map (fun x => c * x)) = statistics values w := by
  unfold statistics
  rw [normWeights_scale w c hc, sumA_real, sumA_real, sum_map_mul_left' (fun x => x) c w, List.map_id']
  simp only [eqA_zero, mul_eq_zero, hc, false_or]

theorem mcPre_self (d : SpDist) : mcPre (α := ℝ) d d = fun x => x := by
  cases d <;> rfl

theorem montecarlo_some {g s : SpDist} {draws : List (List ℝ)} {w : List ℝ} {m sd : ℝ} {R : List (List ℝ)}
    (h : montecarlo g s draws w = some (m, sd, R)) :
    ∃ m', statistics (draws.map (fun row => row.map (mcPre g s))) w = some (m', sd) ∧
      ((s = .normal ∧ m = m' ∧ R = draws.map (fun row => row.map (mcPre g s))) ∨
       (s = .lognormal ∧ m = Real.exp m' ∧
          R = (draws.map (fun row => row.map (mcPre g s))).map (fun row => row.map Real.exp))) := by
  unfold montecarlo at h
  split_ifs at h
  dsimp only at h
  split at h
  · cases h
  · rename_i m' sd' hst
    cases s
    · simp only [Option.some.injEq, Prod.mk.injEq] at h
      obtain ⟨rfl, rfl, rfl⟩ := h
      exact ⟨_, hst, .inl ⟨rfl, rfl, rfl⟩⟩
    · simp only [Option.some.injEq, Prod.mk.injEq, exp_real] at h
      obtain ⟨rfl, rfl, rfl⟩ := h
      exact ⟨_, hst, .inr ⟨rfl, rfl, rfl⟩⟩

/-- weighted mean `Σ wᵢ·vᵢ / Σ wᵢ` of one value per location: what the Monte-Carlo mean is when all draws of a
location coincide -/
noncomputable def wmean (vals w : List ℝ) : ℝ :=
  ((List.zip vals w).map (fun p : ℝ × ℝ => p.2 * p.1)).sum / w.sum

theorem statistics_replicate {vals w : List ℝ} {n : ℕ} {m sd : ℝ}
    (h : statistics (vals.map (List.replicate n)) w = some (m, sd)) : m = wmean vals w := by
  obtain ⟨-, hn0, hm, -⟩ := statistics_some (N := n)
    (fun r hr => by obtain ⟨x, -, rfl⟩ := List.mem_map.mp hr; exact List.length_replicate) h
  rw [hm, wmean, normWeights_real, List.zip_map, List.map_map, ← sum_map_div, ← sum_map_div]
  refine congrArg List.sum (List.map_congr_left fun z _ => ?_)
  simp only [Function.comp, Prod.map, List.sum_replicate, nsmul_eq_mul]
  rw [mul_div_assoc, mul_div_cancel_left₀ _ hn0, div_mul_eq_mul_div]

/-! ## clipping -/

/-- squared Euclidean distance: "`x` is at least as close to `p` as to `q`" is `dist2 x p ≤ dist2 x q` -/
def dist2 (x p : Pt ℝ) : ℝ := (x.1 - p.1) ^ 2 + (x.2 - p.2) ^ 2

theorem hpVal_real (a b c : ℝ) (p : Pt ℝ) : hpVal a b c p = a * p.1 + b * p.2 - c := rfl

theorem hpVal_bisector (pi pj x : Pt ℝ) :
    hpVal (bisector pi pj).1 (bisector pi pj).2.1 (bisector pi pj).2.2 x = dist2 x pi - dist2 x pj := by
  simp only [hpVal_real, bisector, dist2, ofNat_real, Nat.cast_ofNat]
  ring

theorem hpVal_combo (a b c : ℝ) (p q : Pt ℝ) {s t : ℝ} (hst : s + t = 1) :
    hpVal a b c (s • p + t • q) = s * hpVal a b c p + t * hpVal a b c q := by
  simp only [hpVal_real, Prod.fst_add, Prod.snd_add, Prod.smul_fst, Prod.smul_snd, smul_eq_mul]
  linear_combination c * hst

theorem convex_halfplane (a b c : ℝ) : Convex ℝ {x : Pt ℝ | hpVal a b c x ≤ 0} := by
  intro x hx y hy s t hs ht hst
  rw [Set.mem_ofPred_eq, hpVal_combo a b c x y hst]
  exact add_nonpos (mul_nonpos_of_nonneg_of_nonpos hs hx) (mul_nonpos_of_nonneg_of_nonpos ht hy)

theorem interPt_eq (p q : Pt ℝ) (fp fq : ℝ) :
    interPt p q fp fq = (1 - fp / (fp - fq)) • p + (fp / (fp - fq)) • q := by
  ext <;> simp only [interPt, Prod.fst_add, Prod.snd_add, Prod.smul_fst, Prod.smul_snd, smul_eq_mul] <;> ring

/-- the division point lies on the line `hpVal = 0` as soon as the two values differ -/
theorem interPt_val (a b c : ℝ) (p q : Pt ℝ) (hne : hpVal a b c p ≠ hpVal a b c q) :
    hpVal a b c (interPt p q (hpVal a b c p) (hpVal a b c q)) = 0 := by
  rw [interPt_eq, hpVal_combo a b c p q (sub_add_cancel 1 _)]
  have hd := sub_ne_zero.mpr hne
  field_simp
  ring

/-- for values of opposite sign the division point lies between `p` and `q` -/
theorem interPt_mem_segment (p q : Pt ℝ) {fp fq : ℝ} (h : (fp ≤ 0 ∧ 0 < fq) ∨ (0 < fp ∧ fq ≤ 0)) :
    interPt p q fp fq ∈ segment ℝ p q := by
  rw [interPt_eq]
  -- `fp` and `fp - fq` have the same sign, and so have `-fq` and `fp - fq`
  obtain ⟨hd, ht0, ht1⟩ : fp - fq ≠ 0 ∧ 0 ≤ fp / (fp - fq) ∧ 0 ≤ -fq / (fp - fq) := by
    rcases h with ⟨h1, h2⟩ | ⟨h1, h2⟩
    · have hd : fp - fq < 0 := sub_neg.mpr (h1.trans_lt h2)
      exact ⟨hd.ne, div_nonneg_of_nonpos h1 hd.le, div_nonneg_of_nonpos (neg_nonpos.mpr h2.le) hd.le⟩
    · have hd : 0 < fp - fq := sub_pos.mpr (h2.trans_lt h1)
      exact ⟨hd.ne', div_nonneg h1.le hd.le, div_nonneg (neg_nonneg.mpr h2) hd.le⟩
  have hw : 1 - fp / (fp - fq) = -fq / (fp - fq) := by rw [one_sub_div hd, sub_sub_cancel_left]
  exact ⟨_, _, hw ▸ ht1, ht0, sub_add_cancel 1 _, rfl⟩

theorem edges_mem {poly : List (Pt ℝ)} {e : Pt ℝ × Pt ℝ} (he : e ∈ edges poly) :
    e.1 ∈ poly ∧ e.2 ∈ poly := by
  unfold edges at he
  obtain ⟨p, q⟩ := e
  have := List.of_mem_zip he
  refine ⟨this.1, ?_⟩
  rcases List.mem_append.mp this.2 with h | h
  · exact List.mem_of_mem_tail h
  · exact List.mem_of_mem_take h

theorem clipEdge_spec {a b c : ℝ} {e : Pt ℝ × Pt ℝ} {v : Pt ℝ} (hv : v ∈ clipEdge a b c e) :
    v ∈ segment ℝ e.1 e.2 ∧ hpVal a b c v ≤ 0 := by
  simp only [clipEdge, ofNat_real, Nat.cast_zero] at hv
  split_ifs at hv with hp hq hq <;> simp only [List.mem_cons, List.not_mem_nil, or_false] at hv
  · rcases hv with rfl | rfl
    · exact ⟨left_mem_segment ℝ _ _, hp⟩
    · exact ⟨interPt_mem_segment _ _ (.inl ⟨hp, hq⟩), (interPt_val a b c _ _ (hp.trans_lt hq).ne).le⟩
  · subst hv; exact ⟨left_mem_segment ℝ _ _, hp⟩
  · subst hv
    have hp' := not_le.mp hp
    exact ⟨interPt_mem_segment _ _ (.inr ⟨hp', hq⟩), (interPt_val a b c _ _ (hq.trans_lt hp').ne').le⟩

theorem clipHalfPlane_spec {a b c : ℝ} {poly : List (Pt ℝ)} {v : Pt ℝ} (hv : v ∈ clipHalfPlane a b c poly) :
    v ∈ _root_.convexHull ℝ {p | p ∈ poly} ∧ hpVal a b c v ≤ 0 := by
  obtain ⟨e, he, hve⟩ := List.mem_flatMap.mp hv
  obtain ⟨h1, h2⟩ := edges_mem he
  have h1' : e.1 ∈ _root_.convexHull ℝ {p | p ∈ poly} := subset_convexHull ℝ _ h1
  have h2' : e.2 ∈ _root_.convexHull ℝ {p | p ∈ poly} := subset_convexHull ℝ _ h2
  exact ⟨(convex_convexHull ℝ _).segment_subset h1' h2' (clipEdge_spec hve).1, (clipEdge_spec hve).2⟩

/-! ## area, similarity maps -/

/-- the layout moved by the vector `t` (another origin of the coordinates) -/
def trPt (t : Pt ℝ) (p : Pt ℝ) : Pt ℝ := (p.1 + t.1, p.2 + t.2)
/-- the layout scaled about the origin by the factor `s` (another unit of length) -/
def scPt (s : ℝ) (p : Pt ℝ) : Pt ℝ := (s * p.1, s * p.2)

/-- `p ↦ s·p + t`: `trPt t` and `scPt s` are of this form, so that `Sim` is proved once -/
def affPt (s : ℝ) (t p : Pt ℝ) : Pt ℝ := (s * p.1 + t.1, s * p.2 + t.2)

theorem trPt_eq (t : Pt ℝ) : trPt t = affPt 1 t := by
  funext p; simp only [trPt, affPt, one_mul]

theorem scPt_eq (s : ℝ) : scPt s = affPt s 0 := by
  funext p; simp only [scPt, affPt, Prod.fst_zero, Prod.snd_zero, add_zero]

theorem shoelaceAux_affPt (s : ℝ) (t f p : Pt ℝ) (l : List (Pt ℝ)) :
    shoelaceAux (affPt s t f) ((p :: l).map (affPt s t)) =
      s ^ 2 * shoelaceAux f (p :: l) + s * (t.1 * (f.2 - p.2) - t.2 * (f.1 - p.1)) := by
  induction l generalizing p with
  | nil => simp only [List.map_cons, List.map_nil, shoelaceAux, affPt]; ring
  | cons q rest ih =>
    have := ih q
    simp only [List.map_cons, shoelaceAux] at this ⊢
    rw [this]
    simp only [affPt]
    ring

theorem shoelace_affPt (s : ℝ) (t : Pt ℝ) (poly : List (Pt ℝ)) :
    shoelace (poly.map (affPt s t)) = s ^ 2 * shoelace poly := by
  cases poly with
  | nil => simp only [List.map_nil, shoelace, ofNat_real, Nat.cast_zero, mul_zero]
  | cons p rest =>
    simp only [List.map_cons, shoelace]
    have := shoelaceAux_affPt s t p p rest
    simp only [List.map_cons] at this
    rw [this]
    ring

theorem edges_map (φ : Pt ℝ → Pt ℝ) (poly : List (Pt ℝ)) :
    edges (poly.map φ) = (edges poly).map (fun e => (φ e.1, φ e.2)) := by
  unfold edges
  rw [← List.map_tail, ← List.map_take, ← List.map_append, List.zip_map]
  rfl

theorem mul_nonpos_iff_of_pos {k : ℝ} (hk : 0 < k) {x : ℝ} : k * x ≤ 0 ↔ x ≤ 0 := by
  rw [← not_lt, ← not_lt, mul_pos_iff_of_pos_left hk]

/-- a map of the plane under which the whole weight computation is equivariant: it preserves the
coordinate orders and multiplies cross products, bisector functionals and areas by `k > 0` -/
structure Sim (φ : Pt ℝ → Pt ℝ) (k : ℝ) : Prop where
  kpos : 0 < k
  lt1 : ∀ p q, (φ p).1 < (φ q).1 ↔ p.1 < q.1
  lt2 : ∀ p q, (φ p).2 < (φ q).2 ↔ p.2 < q.2
  crs : ∀ o a b, cross (φ o) (φ a) (φ b) = k * cross o a b
  bis : ∀ pi pj p, hpVal (bisector (φ pi) (φ pj)).1 (bisector (φ pi) (φ pj)).2.1 (bisector (φ pi) (φ pj)).2.2 (φ p)
          = k * hpVal (bisector pi pj).1 (bisector pi pj).2.1 (bisector pi pj).2.2 p
  inter : ∀ p q fp fq, interPt (φ p) (φ q) (k * fp) (k * fq) = φ (interPt p q fp fq)
  area : ∀ poly, shoelace (poly.map φ) = k * shoelace poly

theorem sim_affPt (s : ℝ) (hs : 0 < s) (t : Pt ℝ) : Sim (affPt s t) (s ^ 2) where
  kpos := pow_pos hs 2
  lt1 := fun p q => by simp only [affPt, add_lt_add_iff_right, mul_lt_mul_iff_right₀ hs]
  lt2 := fun p q => by simp only [affPt, add_lt_add_iff_right, mul_lt_mul_iff_right₀ hs]
  crs := fun o a b => by simp only [cross, affPt]; ring
  bis := fun pi pj p => by simp only [hpVal_real, bisector, affPt, ofNat_real, Nat.cast_ofNat]; ring
  inter := fun p q fp fq => by
    simp only [interPt, affPt, ← mul_sub, mul_div_mul_left _ _ (pow_ne_zero 2 hs.ne')]
    ext <;> ring
  area := shoelace_affPt s t

theorem sim_trPt (t : Pt ℝ) : Sim (trPt t) (1 ^ 2) := trPt_eq t ▸ sim_affPt 1 one_pos t

theorem sim_scPt (s : ℝ) (hs : 0 < s) : Sim (scPt s) (s ^ 2) := scPt_eq s ▸ sim_affPt s hs 0

section
variable {φ : Pt ℝ → Pt ℝ} {k : ℝ} (S : Sim φ k)
include S

/-- clipping commutes with `φ`: the bisector functional is multiplied by `k > 0`, so every test of
`clipEdge` keeps its outcome, and division points of edges are mapped to division points -/
theorem Sim.clipBisector (pi pj : Pt ℝ) (poly : List (Pt ℝ)) :
    clipBisector (φ pi) (poly.map φ) (φ pj) = (clipBisector pi poly pj).map φ := by
  simp only [HV.clipBisector, clipHalfPlane, edges_map, List.flatMap_map, List.map_flatMap, clipEdge, S.bis, S.inter,
    ofNat_real, Nat.cast_zero, mul_nonpos_iff_of_pos S.kpos, mul_pos_iff_of_pos_left S.kpos,
    apply_ite (List.map φ), List.map_cons, List.map_nil]

theorem Sim.cell (pi : Pt ℝ) (hull others : List (Pt ℝ)) :
    cell (hull.map φ) (φ pi) (others.map φ) = (cell hull pi others).map φ := by
  rw [HV.cell, List.foldl_map]
  exact List.foldl_hom (List.map φ) fun poly pj => S.clipBisector pi pj poly

theorem Sim.ptLt (p q : Pt ℝ) : ptLt (φ p) (φ q) = ptLt p q := by
  simp only [HV.ptLt, eqA, S.lt1, S.lt2]

theorem Sim.ptEq (p q : Pt ℝ) : ptEq (φ p) (φ q) = ptEq p q := by
  simp only [HV.ptEq, eqA, S.lt1, S.lt2]

theorem Sim.insertPt (p : Pt ℝ) (l : List (Pt ℝ)) : insertPt (φ p) (l.map φ) = (insertPt p l).map φ := by
  induction l with
  | nil => rfl
  | cons q qs ih => simp only [List.map_cons, HV.insertPt, S.ptLt, S.ptEq, ih, apply_ite (List.map φ)]

theorem Sim.sortPts (l : List (Pt ℝ)) : sortPts (l.map φ) = (sortPts l).map φ := by
  rw [HV.sortPts, List.foldr_map]
  exact List.foldr_hom (List.map φ) (init := []) fun p l => S.insertPt p l

theorem Sim.popWhile (p : Pt ℝ) (st : List (Pt ℝ)) : popWhile (φ p) (st.map φ) = (popWhile p st).map φ := by
  induction st with
  | nil => rfl
  | cons a st ih =>
    cases st with
    | nil => rfl
    | cons b rest =>
      simp only [List.map_cons, HV.popWhile, S.crs, ofNat_real, Nat.cast_zero, mul_nonpos_iff_of_pos S.kpos,
        apply_ite (List.map φ)] at ih ⊢
      rw [ih]

theorem Sim.halfHull (l : List (Pt ℝ)) : halfHull (l.map φ) = (halfHull l).map φ := by
  rw [HV.halfHull, List.foldl_map]
  exact List.foldl_hom (List.map φ) (init := []) fun st p => by rw [S.popWhile, List.map_cons]

theorem Sim.convexHull (l : List (Pt ℝ)) : HV.convexHull (l.map φ) = (HV.convexHull l).map φ := by
  unfold HV.convexHull
  simp only [S.sortPts, ← List.map_reverse, S.halfHull, ← List.map_tail, List.map_append]

theorem Sim.insideStrict (hull : List (Pt ℝ)) (p : Pt ℝ) :
    insideStrict (hull.map φ) (φ p) = insideStrict hull p := by
  simp only [HV.insideStrict, edges_map, List.all_map, Function.comp_def, S.crs, ofNat_real, Nat.cast_zero,
    mul_pos_iff_of_pos_left S.kpos]

theorem Sim.cull (hull coords : List (Pt ℝ)) :
    cull (hull.map φ) (coords.map φ) = (cull hull coords).map (fun x => (φ x.1, x.2)) := by
  simp only [HV.cull, List.zipIdx_map, List.filter_map, Function.comp_def, Prod.map, id, S.insideStrict]
  rfl

theorem Sim.boundedCells (hull pts : List (Pt ℝ)) :
    boundedCells (hull.map φ) (pts.map φ) = (boundedCells hull pts).map (fun c => c.map φ) := by
  simp only [HV.boundedCells, List.zipIdx_map, List.map_map, Function.comp_def, Prod.map, id, List.eraseIdx_map, S.cell]

theorem Sim.voronoiWeights (coords boundary : List (Pt ℝ)) :
    (voronoiWeights (coords.map φ) (boundary.map φ)).map (fun o => (o.indices, o.weights)) =
    (voronoiWeights coords boundary).map (fun o => (o.indices, o.weights)) := by
  have hk := S.kpos.ne'
  have hpts (K : List (Pt ℝ × ℕ)) : (K.map fun x => (φ x.1, x.2)).map (·.1) = (K.map (·.1)).map φ := by
    rw [List.map_map, List.map_map]; rfl
  -- hull, retained sensors and cells move with `φ`; the total area is multiplied by `k ≠ 0`, so no test changes …
  simp only [HV.voronoiWeights, S.convexHull, S.area, S.cull, hpts, S.boundedCells, List.length_map, eqA_zero,
    mul_eq_zero, hk, false_or, apply_ite (Except.map _)]
  -- … and `k` cancels in every weight
  simp only [List.map_map, Function.comp_def, S.area, mul_div_mul_left _ _ hk, Except.map]

end

/-! ## bookkeeping of `voronoiWeights` -/

theorem voronoiWeights_ok {coords boundary : List (Pt ℝ)} {o : VoronoiOut ℝ}
    (h : voronoiWeights coords boundary = .ok o) :
    o.hull = convexHull boundary ∧
    o.indices = (cull (convexHull boundary) coords).map (fun x => x.2) ∧
    o.cells = boundedCells (convexHull boundary) ((cull (convexHull boundary) coords).map (fun x => x.1)) ∧
    o.weights = o.cells.map (fun c => shoelace c / shoelace (convexHull boundary)) ∧
    3 ≤ (cull (convexHull boundary) coords).length ∧ shoelace (convexHull boundary) ≠ 0 := by
  simp only [voronoiWeights, eqA_zero, Bool.or_eq_true, decide_eq_true_eq] at h
  split_ifs at h with h1 h2
  obtain rfl := Except.ok.inj h
  exact ⟨rfl, rfl, rfl, rfl, not_lt.mp h2, fun h0 => h1 (.inr h0)⟩

theorem insideStrict_iff (hull : List (Pt ℝ)) (p : Pt ℝ) :
    insideStrict hull p = true ↔ ∀ e ∈ edges hull, 0 < cross e.1 e.2 p := by
  unfold insideStrict
  simp only [List.all_eq_true, decide_eq_true_eq, ofNat_real, Nat.cast_zero]

theorem mem_cull_iff (hull coords : List (Pt ℝ)) (p : Pt ℝ) (i : ℕ) :
    (p, i) ∈ cull hull coords ↔ coords[i]? = some p ∧ insideStrict hull p = true := by
  unfold cull
  rw [List.mem_filter, List.mk_mem_zipIdx_iff_getElem?]

theorem cull_indices_sorted (hull coords : List (Pt ℝ)) :
    ((cull hull coords).map (fun x => x.2)).Pairwise (· < ·) := by
  refine List.Pairwise.sublist (List.filter_sublist.map _) ?_
  rw [List.zipIdx_map_snd]
  exact List.pairwise_lt_range'

theorem boundedCells_getElem? (hull pts : List (Pt ℝ)) (k : ℕ) :
    (boundedCells hull pts)[k]? = (pts[k]?).map (fun p => cell hull p (pts.eraseIdx k)) := by
  unfold boundedCells
  rw [List.getElem?_map, List.getElem?_zipIdx]
  cases pts[k]? <;> simp

end HV
