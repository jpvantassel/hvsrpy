/-!
# `Except` as the models use it: what a successful `>>=` / `pure` / `mapM` says (core Lean only)

`x >>= f` and `x.bind f` are the same by `rfl` but not syntactically: a lemma stated with one applies to the other
through `exact`/`.mp`, not through `rw`.
-/
namespace HV

theorem bind_eq_ok {ε α β : Type} (x : Except ε α) (f : α → Except ε β) (b : β) :
    (x >>= f) = .ok b ↔ ∃ a, x = .ok a ∧ f a = .ok b := by
  cases x with
  | error e => exact ⟨nofun, fun ⟨_, h, _⟩ => nomatch h⟩
  | ok a => exact ⟨fun h => ⟨a, rfl, h⟩, fun ⟨_, h, h'⟩ => by cases h; exact h'⟩

theorem pure_eq_ok {ε α : Type} (a b : α) : (pure a : Except ε α) = .ok b ↔ a = b := by
  simp [pure, Except.pure]

theorem ok3_inj {ε α β γ : Type} {a a' : α} {b b' : β} {c c' : γ}
    (h : (Except.ok (a, b, c) : Except ε (α × β × γ)) = .ok (a', b', c')) : a = a' ∧ b = b' ∧ c = c' := by
  cases h; exact ⟨rfl, rfl, rfl⟩

theorem exists_error {ε α : Type} {x : Except ε α} (h : ∀ r, x ≠ .ok r) : ∃ e, x = .error e := by
  cases x with
  | error e => exact ⟨e, rfl⟩
  | ok r => exact absurd rfl (h r)

theorem bind_bind {ε α β γ : Type} (a : Except ε α) (f : α → Except ε β) (g : β → Except ε γ) :
    (a.bind f).bind g = a.bind fun x => (f x).bind g := by
  cases a <;> rfl

theorem mapM_eq_ok {β γ ε : Type} (f : β → Except ε γ) : ∀ (l : List β) (rs : List γ),
    l.mapM f = .ok rs → l.map f = rs.map .ok
  | [], rs, h => by cases h; rfl
  | a :: t, rs, h => by
    rw [List.mapM_cons] at h
    cases ha : f a with
    | error e => rw [ha] at h; cases h
    | ok v =>
      cases ht : t.mapM f with
      | error e => rw [ha, ht] at h; cases h
      | ok vs => rw [ha, ht] at h; cases h; simp [ha, mapM_eq_ok f t vs ht]

theorem mapM_map_comm {ε β γ : Type} (f : β → Except ε γ) (φ : β → β) (k : γ → γ)
    (h : ∀ p, f (φ p) = (f p).map k) (l : List β) : (l.map φ).mapM f = (l.mapM f).map (List.map k) := by
  induction l with
  | nil => rfl
  | cons p ps ih =>
    rw [List.map_cons, List.mapM_cons, List.mapM_cons, h, ih]
    cases f p with
    | error e => rfl
    | ok y => cases List.mapM f ps <;> rfl

end HV
