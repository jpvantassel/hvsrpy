import HvsrVerif.Proofs.StatsLemmas
import HvsrVerif.Props.C08
/-! the peak search under a strictly increasing map of the amplitudes (it sees only their order: the local maxima by their
characterisation `C08.localMaxima_iff`, the argmax by `<` alone), and the statistics of an object under a common positive
rescaling of the amplitudes -/
namespace HV

variable {f : ℝ → ℝ}

theorem getElem?_map_eq_some {β γ : Type} {g : β → γ} (hg : Function.Injective g) {x : List β} {j : ℕ} {v : β} :
    (x.map g)[j]? = some (g v) ↔ x[j]? = some v := by
  rw [List.getElem?_map, Option.map_eq_some_iff]
  exact ⟨fun ⟨_, h, e⟩ => hg e ▸ h, fun h => ⟨v, h, rfl⟩⟩

theorem exists_getElem?_map_lt (hf : StrictMono f) {x : List ℝ} {j : ℕ} {v : ℝ} :
    (∃ a, (x.map f)[j]? = some a ∧ a < f v) ↔ ∃ a, x[j]? = some a ∧ a < v := by
  simp only [List.getElem?_map, Option.map_eq_some_iff, exists_exists_and_eq_and, hf.lt_iff_lt]

theorem isPlateauMax_map_strictMono (hf : StrictMono f) (x : List ℝ) (i : ℕ) :
    C08.IsPlateauMax (x.map f) i ↔ C08.IsPlateauMax x i := by
  refine exists_congr fun l => exists_congr fun r => ⟨fun ⟨w, h⟩ => ?_, fun ⟨v, h⟩ => ⟨f v, ?_⟩⟩
  · -- the common value `w` of the run is the image of the sample at `i`
    have ⟨hli, hir, hrun, _⟩ := h
    obtain ⟨v, -, rfl⟩ := Option.map_eq_some_iff.mp (List.getElem?_map .. ▸ hrun i hli hir)
    exact ⟨v, by simpa only [getElem?_map_eq_some hf.injective, exists_getElem?_map_lt hf, List.length_map] using h⟩
  · simpa only [getElem?_map_eq_some hf.injective, exists_getElem?_map_lt hf, List.length_map] using h

theorem localMaxima_map_strictMono (hf : StrictMono f) (x : List ℝ) : localMaxima (x.map f) = localMaxima x := by
  have key : ∀ y : List ℝ, ∀ i ∈ List.range y.length, isPlateauMid y i = true ↔ C08.IsPlateauMax y i := fun y i hi => by
    rw [← C08.localMaxima_iff, localMaxima, List.mem_filter, and_iff_right hi]
  unfold localMaxima
  rw [List.length_map]
  exact List.filter_congr fun i hi => Bool.eq_iff_iff.mpr <| by
    rw [key _ i (by rwa [List.length_map]), key _ i hi, isPlateauMax_map_strictMono hf]

theorem argmaxOn_map_strictMono (hf : StrictMono f) (amp : List ℝ) (is : List ℕ) :
    argmaxOn (amp.map f) is = (argmaxOn amp is).map (fun p => (p.1, f p.2)) := by
  induction is with
  | nil => rfl
  | cons i is ih =>
    unfold argmaxOn
    simp only [List.getElem?_map]
    cases amp[i]? with
    | none => exact ih
    | some a =>
      simp only [Option.map_some]
      rw [ih]
      cases argmaxOn amp is with
      | none => rfl
      | some jb =>
        obtain ⟨j, b⟩ := jb
        simp only [Option.map_some, hf.lt_iff_lt]
        split <;> rfl

theorem pySlice_map {β γ : Type} (f : β → γ) (l : List β) (lo hi : ℕ) : pySlice (l.map f) lo hi = (pySlice l lo hi).map f := by
  unfold pySlice; rw [← List.map_take, ← List.map_drop]

theorem findPeakBounded_map_strictMono (hf : StrictMono f) (freq amp : List ℝ) (r : Range ℝ) :
    findPeakBounded freq (amp.map f) r = (findPeakBounded freq amp r).map (fun p => (p.1, f p.2)) := by
  unfold findPeakBounded findPeakUnbounded
  simp only [pySlice_map, localMaxima_map_strictMono hf, argmaxOn_map_strictMono hf]
  cases argmaxOn (pySlice amp (rangeToIdx freq r).1 (rangeToIdx freq r).2)
      (localMaxima (pySlice amp (rangeToIdx freq r).1 (rangeToIdx freq r).2)) with
  | none => rfl
  | some ia =>
    obtain ⟨i, a⟩ := ia
    simp only [Option.map_some]
    cases (pySlice freq (rangeToIdx freq r).1 (rangeToIdx freq r).2)[i]? <;> rfl

theorem findPeakBounded_scale (c : ℝ) (hc : 0 < c) (freq amp : List ℝ) (r : Range ℝ) :
    findPeakBounded freq (amp.map (c * ·)) r = (findPeakBounded freq amp r).map (fun p => (p.1, c * p.2)) :=
  findPeakBounded_map_strictMono (strictMono_mul_left_of_pos hc) freq amp r

/-- all amplitudes multiplied by `c` (curves and the amplitudes of the stored peaks) -/
def scaleState (c : ℝ) (s : HvTrad ℝ) : HvTrad ℝ :=
  { s with rows := s.rows.map (fun r => r.map (c * ·)), peaks := s.peaks.map (fun p => p.map (fun q => (q.1, c * q.2))) }

theorem peakFreqs_scale (c : ℝ) (s : HvTrad ℝ) : (scaleState c s).peakFreqs = s.peakFreqs := by
  unfold HvTrad.peakFreqs scaleState
  simp only [List.map_map]
  congr 2
  funext p
  cases p <;> rfl

theorem validRows_scale (c : ℝ) (s : HvTrad ℝ) : (scaleState c s).validRows = s.validRows.map (fun r => r.map (c * ·)) :=
  maskSel_map _ _ _

theorem sum_map_log_mul (l : List ℝ) (c : ℝ) (hc : 0 < c) (hl : ∀ v ∈ l, 0 < v) :
    ((l.map (c * ·)).map Real.log).sum = (l.length : ℝ) * Real.log c + (l.map Real.log).sum := by
  have h : ∀ v ∈ l, (Real.log ∘ (c * ·)) v = Real.log c + Real.log v := fun v hv =>
    Real.log_mul hc.ne' (hl v hv).ne'
  rw [List.map_map, List.map_congr_left h, List.sum_map_add, List.map_const', List.sum_replicate, nsmul_eq_mul]

theorem nanmeanW_scale (d : Dist) (c : ℝ) (hc : 0 < c) (col : List ℝ) (hpos : ∀ v ∈ col, 0 < v) :
    nanmeanW d ((col.map (c * ·)).map some) none = (nanmeanW d (col.map some) none).map (c * ·) := by
  rw [nanmeanW_unweighted, nanmeanW_unweighted, somes_map_some, somes_map_some]
  simp only [List.length_map]
  by_cases h0 : col.length = 0
  · simp [h0]
  · simp only [h0, if_false, Option.map_some, Option.some.injEq]
    cases d
    · simp only [Dist.postMean, pre_normal, List.map_id']
      rw [List.sum_map_mul_left col (fun x => x) c, List.map_id', mul_div_assoc]
    · simp only [Dist.postMean, pre_lognormal, exp_real]
      rw [sum_map_log_mul col c hc hpos, add_div, mul_div_cancel_left₀ _ (Nat.cast_ne_zero.mpr h0), Real.exp_add,
        Real.exp_log hc]

theorem meanCurve_scale (d : Dist) (c : ℝ) (hc : 0 < c) (s : HvTrad ℝ) (hpos : ∀ r ∈ s.rows, ∀ v ∈ r, 0 < v) :
    (scaleState c s).meanCurve d = (s.meanCurve d).map (fun o => o.map (c * ·)) := by
  by_cases h1 : s.validRows.length = 1
  · obtain ⟨r, hr⟩ := List.length_eq_one_iff.mp h1
    rw [meanCurve_single d s hr, meanCurve_single d _ (by rw [validRows_scale, hr]; rfl), List.map_map, List.map_map]
    rfl
  · rw [meanCurve_multi d s h1, meanCurve_multi d _ (by rw [validRows_scale, List.length_map]; exact h1), validRows_scale,
      List.map_map]
    apply List.map_congr_left
    intro j _
    rw [Function.comp, column_map]
    apply nanmeanW_scale d c hc
    intro v hv
    obtain ⟨r, hr, hrv⟩ := List.mem_filterMap.mp hv
    exact hpos r (maskSel_subset _ _ hr) v (List.mem_of_getElem? hrv)

theorem allSome_map {β γ : Type} (f : β → γ) (l : List (Option β)) :
    allSome (l.map (fun o => o.map f)) = (allSome l).map (fun m => m.map f) := by
  unfold allSome
  induction l with
  | nil => rfl
  | cons a t ih =>
    rw [List.map_cons, List.mapM_cons, List.mapM_cons, ih]
    cases a <;> cases List.mapM id t <;> rfl

theorem meanCurvePeak_scale (d : Dist) (c : ℝ) (hc : 0 < c) (s : HvTrad ℝ) (hpos : ∀ r ∈ s.rows, ∀ v ∈ r, 0 < v) :
    (scaleState c s).meanCurvePeak d = (s.meanCurvePeak d).map (fun p => (p.1, c * p.2)) := by
  unfold HvTrad.meanCurvePeak
  rw [meanCurve_scale d c hc s hpos, allSome_map]
  have hfreq : (scaleState c s).freq = s.freq := rfl
  have hrange : (scaleState c s).range = s.range := rfl
  rw [hfreq, hrange]
  cases allSome (s.meanCurve d) with
  | none => rfl
  | some mc =>
    simp only [Option.map_some]
    rw [findPeakBounded_scale c hc]
    cases findPeakBounded s.freq mc (s.range.getD (none, none)) <;> rfl

theorem fdwraApply_scale (c : ℝ) (lower upper : Option ℝ) (s : HvTrad ℝ) :
    fdwraApply lower upper (scaleState c s) = scaleState c (fdwraApply lower upper s) := by
  have hk : fdwraKeep lower upper (scaleState c s) = fdwraKeep lower upper s := by
    unfold fdwraKeep scaleState
    rw [List.zip_map_right, List.map_map]
    apply List.map_congr_left
    rintro ⟨b, q⟩ _
    cases q <;> rfl
  unfold fdwraApply
  rw [hk]
  rfl

theorem recomputePeaks_scale (r : Range ℝ) (c : ℝ) (hc : 0 < c) (s : HvTrad ℝ) :
    recomputePeaks r (scaleState c s) = scaleState c (recomputePeaks r s) := by
  unfold recomputePeaks scaleState
  simp only [List.map_map, Function.comp_def, findPeakBounded_scale c hc, Option.isSome_map]

theorem scale_positive (c : ℝ) (hc : 0 < c) (s : HvTrad ℝ) (hpos : ∀ r ∈ s.rows, ∀ v ∈ r, 0 < v) :
    ∀ r ∈ (scaleState c s).rows, ∀ v ∈ r, 0 < v := by
  intro r hr v hv
  obtain ⟨r0, hr0, rfl⟩ := List.mem_map.mp hr
  obtain ⟨v0, hv0, rfl⟩ := List.mem_map.mp hv
  exact mul_pos hc (hpos r0 hr0 v0 hv0)

end HV
