import HvsrVerif.Proofs.RealInst
import HvsrVerif.Model.Combine
import HvsrVerif.Model.Rec
/-!
# `degNorm` over `ℝ`: orientation modulo 360

`Model/Rec.lean` repeats the definition of `Model/Combine.lean` (each model is self-contained); the facts are
proved for the latter and carried over by `RecM.degNorm_eq`.
-/
namespace HV

theorem RecM.degNorm_eq {α : Type} [Transc α] (d : α) : RecM.degNorm d = _root_.HV.degNorm d := rfl

theorem degNorm_real (d : ℝ) : degNorm d = d - ⌊d / 360⌋ * 360 := by
  rw [degNorm, ofNat_real, floor_real, ofInt_real, Nat.cast_ofNat, mul_comm]

theorem degNorm_range (d : ℝ) : 0 ≤ degNorm d ∧ degNorm d < 360 := by
  rw [degNorm_real]
  exact ⟨Int.sub_floor_div_mul_nonneg d (by norm_num), Int.sub_floor_div_mul_lt d (by norm_num)⟩

theorem degNorm_id (d : ℝ) (h0 : 0 ≤ d) (h1 : d < 360) : degNorm d = d := by
  rw [degNorm_real, Int.floor_eq_zero_iff.2 ⟨div_nonneg h0 (by norm_num), (div_lt_one (by norm_num)).2 h1⟩,
    Int.cast_zero, zero_mul, sub_zero]

end HV
