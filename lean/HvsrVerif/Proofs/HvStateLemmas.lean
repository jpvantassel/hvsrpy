import HvsrVerif.Proofs.RealInst
import HvsrVerif.Model.HvAz
/-!
# Lemmas about `Model/HvState.lean`: the comparisons of `update_peaks_bounded` (and `optLt` of the rejection loop) over `ℝ`, the
shape of `updatePeaks`, selection by a mask, columns and the two cases of `mean_curve`
-/
namespace HV

theorem optEq_real (a b : Option ℝ) : optEq a b = true ↔ a = b := by
  cases a <;> cases b <;> simp [optEq, eqA_real]

theorem optLt_real (a b : Option ℝ) : optLt a b = true ↔ ∃ x y, a = some x ∧ b = some y ∧ x < y := by
  cases a <;> cases b <;> simp [optLt]

theorem rangeEq_real (a b : Range ℝ) : rangeEq a b = true ↔ a = b := by
  simp [rangeEq, optEq_real, Prod.ext_iff]

theorem updatePeaks_cases (r : Range ℝ) (kw : Bool) (s : HvTrad ℝ) :
    (updatePeaks r kw s = s ∧ s.range = some r) ∨ updatePeaks r kw s = recomputePeaks r s := by
  unfold updatePeaks
  split
  · rename_i r0 hr0
    split
    · rename_i hc
      rw [Bool.and_eq_true, rangeEq_real] at hc
      exact Or.inl ⟨rfl, hc.1 ▸ hr0⟩
    · exact Or.inr rfl
  · exact Or.inr rfl

theorem updatePeaks_false_eq (r : Range ℝ) (s : HvTrad ℝ) : updatePeaks r false s = recomputePeaks r s := by
  unfold updatePeaks
  split
  · simp
  · rfl

theorem maskSel_length {β : Type} (l : List β) (m : List Bool) (h : m.length = l.length) :
    (maskSel l m).length = countTrue m := by
  unfold maskSel countTrue
  rw [List.length_filterMap_eq_countP, ← List.countP_eq_length_filter]
  conv_rhs => rw [← List.map_snd_zip (l₁ := l) (l₂ := m) h.le, List.countP_map]
  congr 1; funext ⟨a, b⟩; cases b <;> rfl

theorem maskSel_map {β γ : Type} (f : β → γ) (l : List β) (m : List Bool) :
    maskSel (l.map f) m = (maskSel l m).map f := by
  unfold maskSel
  rw [List.zip_map_left, List.filterMap_map, List.map_filterMap]
  congr 1; funext ⟨a, b⟩; cases b <;> rfl

theorem maskSel_subset {β : Type} (l : List β) (m : List Bool) {x : β} (h : x ∈ maskSel l m) : x ∈ l := by
  obtain ⟨⟨a, b⟩, hz, hb⟩ := List.mem_filterMap.mp h
  cases b
  · cases hb
  · exact Option.some.inj hb ▸ (List.of_mem_zip hz).1

theorem maskSel_true {β : Type} (l : List β) : maskSel l (l.map (fun _ => true)) = l := by
  unfold maskSel
  rw [List.zip_map_right, List.filterMap_map]
  induction l with
  | nil => rfl
  | cons a t ih => rw [List.zip_cons_cons, List.filterMap_cons, ih]; rfl

theorem column_map {β γ : Type} (f : β → γ) (rows : List (List β)) (j : ℕ) :
    column (rows.map (·.map f)) j = (column rows j).map f := by
  unfold column
  rw [List.filterMap_map, List.map_filterMap]
  congr 1
  funext r
  exact List.getElem?_map

theorem meanCurve_single (d : Dist) (s : HvTrad ℝ) {r : List ℝ} (h : s.validRows = [r]) : s.meanCurve d = r.map some := by
  unfold HvTrad.meanCurve; rw [h]

theorem meanCurve_multi (d : Dist) (s : HvTrad ℝ) (h : s.validRows.length ≠ 1) :
    s.meanCurve d = (List.range s.freq.length).map (fun j => nanmeanW d ((column s.validRows j).map some) none) := by
  unfold HvTrad.meanCurve
  split
  · rename_i r hr; rw [hr] at h; exact absurd rfl h
  · rfl

end HV
