import HvsrVerif.Model.Rec
import HvsrVerif.Proofs.Split
import HvsrVerif.Proofs.Degrees
import Mathlib.Data.List.Nodup
/-! Lemmas for C18 on the parts of the recording model: insertion-ordered dicts, `trim` and its
nearest-sample search over `ℝ`, the heap. -/
namespace HV.RecM
open HV.Split

theorem dictGet_cons {γ : Type} (k' k : String) (v : γ) (rest : List (String × γ)) :
    dictGet ((k', v) :: rest) k = if k' = k then some v else dictGet rest k := rfl

theorem keys_cons {γ : Type} (p : String × γ) (m : List (String × γ)) : keys (p :: m) = p.1 :: keys m := rfl

theorem keys_append {γ : Type} (a b : List (String × γ)) : keys (a ++ b) = keys a ++ keys b := List.map_append

theorem dictSet_append {γ : Type} (a b : List (String × γ)) (k : String) (v : γ) (h : k ∉ keys a) :
    dictSet (a ++ b) k v = a ++ dictSet b k v := by
  induction a with
  | nil => rfl
  | cons p a ih =>
    rw [keys_cons, List.mem_cons, not_or] at h
    rw [List.cons_append, dictSet, if_neg (Ne.symm h.1), ih h.2, List.cons_append]

theorem dictSet_fresh {γ : Type} (m : List (String × γ)) (k : String) (v : γ) (h : k ∉ keys m) :
    dictSet m k v = m ++ [(k, v)] := by
  rw [← List.append_nil m, dictSet_append m [] k v h, List.append_nil]; rfl

theorem keys_dictSet_of_mem {γ : Type} (m : List (String × γ)) (k : String) (v : γ) (h : k ∈ keys m) :
    keys (dictSet m k v) = keys m := by
  induction m with
  | nil => cases h
  | cons p m ih =>
    rw [dictSet]
    by_cases hp : p.1 = k
    · rw [if_pos hp, keys_cons, keys_cons, hp]
    · rw [if_neg hp, keys_cons, keys_cons, ih ((List.mem_cons.1 h).resolve_left (Ne.symm hp))]

/-- Why loading restores the saved meta dict: merging `m` over a dict `base` whose keys lead those of `m`, in order,
rewrites the entries of `base` in place and appends the rest, so `m` comes out. `done` (entries in front, with
other keys) is what the induction needs: it collects the entries of `m` already written. -/
theorem foldl_dictSet_prefix {γ : Type} (m : List (String × γ)) :
    ∀ done base : List (String × γ), keys base <+: keys m → (keys (done ++ m)).Nodup →
      m.foldl (fun a kv => dictSet a kv.1 kv.2) (done ++ base) = done ++ m := by
  induction m with
  | nil =>
    intro done base hp _
    rw [List.map_eq_nil_iff.1 (List.prefix_nil.1 hp)]; rfl
  | cons p m ih =>
    intro done base hp hn
    have hn' : (keys ((done ++ [p]) ++ m)).Nodup := by rwa [List.append_assoc]
    have hk : p.1 ∉ keys done := fun hm => by
      rw [keys_append] at hn
      exact (List.nodup_append.1 hn).2.2 _ hm _ List.mem_cons_self rfl
    rw [List.foldl_cons, dictSet_append done base p.1 p.2 hk, List.append_cons done p m]
    match base, hp with
    | [], _ =>
      have := ih (done ++ [p]) [] List.nil_prefix hn'
      rwa [List.append_nil] at this
    | q :: base, hp =>
      obtain ⟨hq, hp⟩ := List.cons_prefix_cons.1 hp
      rw [dictSet, if_pos hq, List.append_cons done _ base]
      exact ih (done ++ [p]) base hp hn'

theorem dictMerge_eq_self {γ : Type} (base m : List (String × γ)) (hp : keys base <+: keys m)
    (hn : (keys m).Nodup) : dictMerge base m = m :=
  foldl_dictSet_prefix m [] base hp hn

/-- a well-formed meta dict: the three default keys lead (in the constructor's order) and keys are unique -/
def MetaWF {α : Type} (m : Dict α) : Prop :=
  (∃ v1 v2 v3 rest, m = (kFile, v1) :: (kDeployed, v2) :: (kCurrent, v3) :: rest) ∧ (keys m).Nodup

theorem metaWF_iff {α : Type} (m : Dict α) :
    MetaWF m ↔ [kFile, kDeployed, kCurrent] <+: keys m ∧ (keys m).Nodup := by
  refine and_congr_left fun _ => ⟨?_, ?_⟩
  · rintro ⟨v1, v2, v3, rest, rfl⟩; exact ⟨keys rest, rfl⟩
  · rintro ⟨t, ht⟩
    match m, ht with
    | (_, v1) :: (_, v2) :: (_, v3) :: rest, ht =>
      cases ht; exact ⟨v1, v2, v3, rest, rfl⟩

theorem metaWF_default {α : Type} (a b c : Json α) :
    MetaWF [(kFile, a), (kDeployed, b), (kCurrent, c)] :=
  ⟨⟨a, b, c, [], rfl⟩, show [kFile, kDeployed, kCurrent].Nodup by unfold kFile kDeployed kCurrent; simp⟩

theorem metaWF_dictSet {α : Type} (m : Dict α) (k : String) (v : Json α) (h : MetaWF m) :
    MetaWF (dictSet m k v) := by
  rw [metaWF_iff] at h ⊢
  by_cases hk : k ∈ keys m
  · rwa [keys_dictSet_of_mem m k v hk]
  · rw [dictSet_fresh m k v hk, keys_append]
    exact ⟨h.1.trans (List.prefix_append _ _), List.Nodup.append h.2 (List.nodup_singleton k)
      (List.disjoint_singleton.2 hk)⟩

theorem metaWF_dictMerge {α : Type} (base upd : Dict α) (h : MetaWF base) :
    MetaWF (dictMerge base upd) :=
  List.foldlRecOn upd _ h fun m hm p _ => metaWF_dictSet m p.1 p.2 hm

/-- `{**defaults, **m} = m` for a well-formed `m` (this is why a loaded recording has the saved meta) -/
theorem dictMerge_default_id {α : Type} (a b c : Json α) (m : Dict α) (h : MetaWF m) :
    dictMerge [(kFile, a), (kDeployed, b), (kCurrent, c)] m = m :=
  dictMerge_eq_self _ m ((metaWF_iff m).1 h).1 h.2

theorem mapM_asNum {α : Type} (xs : List α) : (xs.map Json.num).mapM asNum = some xs := by
  induction xs with
  | nil => rfl
  | cons x xs ih => simp [List.mapM_cons, asNum, ih]

/-- distance of sample `i` (time `i·dt`) from `t` -/
def sdist (dt t : ℝ) (i : Nat) : ℝ := |(i : ℝ) * dt - t|

end HV.RecM

namespace HV.Split
open HV.RecM

theorem trimIdx_real (n : Nat) (dt t0 t1 : ℝ) :
    trimIdx n dt t0 t1 =
      if n = 0 ∨ t0 < 0 ∨ t1 ≤ t0 ∨ ((n - 1 : Nat) : ℝ) * dt < t1 then .error "index"
      else .ok (argminAbs dt t0 n, argminAbs dt t1 n) := by
  simp only [trimIdx, timeAt, ofNat_real, Nat.cast_zero, ite_or]

theorem trim_real {β : Type} (xs : List β) (dt t0 t1 : ℝ) :
    trim xs dt t0 t1 =
      if xs.length = 0 ∨ t0 < 0 ∨ t1 ≤ t0 ∨ ((xs.length - 1 : Nat) : ℝ) * dt < t1 then .error "index"
      else .ok (slice xs (argminAbs dt t0 xs.length) (argminAbs dt t1 xs.length + 1)) := by
  rw [trim, trimIdx_real]
  split_ifs <;> rfl

theorem trim_eq_ok {β : Type} {xs ys : List β} {dt t0 t1 : ℝ} (h : trim xs dt t0 t1 = .ok ys) :
    0 < xs.length ∧ ys = slice xs (argminAbs dt t0 xs.length) (argminAbs dt t1 xs.length + 1) := by
  rw [trim_real] at h
  split at h
  · cases h
  · cases h
    exact ⟨Nat.pos_of_ne_zero fun e => ‹¬ _› (Or.inl e), rfl⟩

theorem argminAbs_succ (dt t : ℝ) (m : Nat) : argminAbs dt t (m + 1) =
    if sdist dt t m < sdist dt t (argminAbs dt t m) then m else argminAbs dt t m := by
  unfold argminAbs
  rw [List.range_succ, List.foldl_append, List.foldl_cons, List.foldl_nil]
  simp only [absA_real, timeAt, ofNat_real, sdist]

end HV.Split

namespace HV.RecM

theorem Heap.read_of_prefix {α : Type} {h h' : Heap α} (e : h.cells <+: h'.cells) {b : Arr} (hb : h.valid b) :
    h'.read b = h.read b := by
  obtain ⟨t, ht⟩ := e
  rw [Heap.read, Heap.read, ← ht, List.getD_eq_getElem?_getD, List.getD_eq_getElem?_getD,
    List.getElem?_append_left hb]

theorem Heap.read_alloc_new {α : Type} (h : Heap α) (xs : List α) :
    (h.alloc xs).1.read (h.alloc xs).2 = xs := by
  simp only [Heap.alloc, Heap.read, List.getD_eq_getElem?_getD, List.getElem?_append_right (Nat.le_refl _),
    Nat.sub_self, List.getElem?_cons_zero, Option.getD_some, List.drop_zero, List.take_length]

theorem Heap.read_write_other {α : Type} (h : Heap α) (a c : Arr) (i : Nat) (v : α)
    (hne : a.base ≠ c.base) : (h.write c i v).read a = h.read a := by
  unfold Heap.write
  split
  · unfold Heap.read
    simp only [List.getD_eq_getElem?_getD, List.getElem?_modify]
    cases h.cells[a.base]? <;> simp [hne.symm]
  · rfl

theorem Heap.write_length {α : Type} (h : Heap α) (c : Arr) (i : Nat) (v : α) :
    (h.write c i v).cells.length = h.cells.length := by
  unfold Heap.write
  split
  · simp [List.length_modify]
  · rfl

end HV.RecM
