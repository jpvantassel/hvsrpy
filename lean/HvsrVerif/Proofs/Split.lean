import HvsrVerif.Model.Split
import HvsrVerif.Model.Peaks
/-! python slices `xs[a:b]` as lists: length and entries (core Lean only); the peak model's `pySlice` (take, then drop)
is the same list. -/
namespace HV.Split
variable {β : Type}

theorem getElem?_slice (xs : List β) (a b i : Nat) :
    (slice xs a b)[i]? = if i < b - a then xs[a + i]? else none := by
  rw [slice, List.getElem?_take, List.getElem?_drop]

theorem length_slice (xs : List β) (a b : Nat) :
    (slice xs a b).length = min (b - a) (xs.length - a) := by
  rw [slice, List.length_take, List.length_drop]

theorem _root_.HV.pySlice_eq_slice (l : List β) (a b : Nat) : pySlice l a b = slice l a b :=
  List.drop_take ..

end HV.Split
