import HvsrVerif.Proofs.ListLemmas
import HvsrVerif.Model.DFT
/-!
The model's real DFT (`dftRe`, `dftIm`) as finite sums over the sample index, with the model's own reduced angle
`dftAngle`: the form from which linearity and homogeneity of the transform are read off.
-/
namespace HV

/-- by definition: `Finset.range m` is `List.range m` as a multiset, and a `Finset` sum is the sum of the mapped list -/
theorem list_range_map_sum (m : ℕ) (f : ℕ → ℝ) : ((List.range m).map f).sum = ∑ i ∈ Finset.range m, f i := rfl

theorem zip_range_sum (l : List ℝ) (g : ℕ → ℝ → ℝ) :
    ((List.zip (List.range l.length) l).map (fun p => g p.1 p.2)).sum
      = ∑ j ∈ Finset.range l.length, g j (l.getD j 0) := by
  rw [← list_range_map_sum]
  refine congrArg List.sum (List.ext_getElem (by simp) fun i h1 h2 => ?_)
  simp only [List.length_map, List.length_range] at h2
  simp [List.getD_eq_getElem?_getD, h2]

theorem sum_range_getD (l : List ℝ) : ∑ j ∈ Finset.range l.length, l.getD j 0 = l.sum := by
  rw [← zip_range_sum l fun _ v => v]
  exact congrArg List.sum (List.map_snd_zip (by simp))

theorem rfft_length (x : List ℝ) (n : ℕ) : (rfft x n).length = n / 2 + 1 := by
  unfold rfft; simp

theorem rfft_getElem (x : List ℝ) (n k : ℕ) (hk : k < (rfft x n).length) :
    (rfft x n)[k] = (dftRe (x.take n) n k, dftIm (x.take n) n k) := by
  simp [rfft]

theorem dftRe_eq_sum (x : List ℝ) (n k : ℕ) :
    dftRe x n k = ∑ j ∈ Finset.range x.length, x.getD j 0 * Real.cos (dftAngle n j k) := by
  rw [dftRe, sumA_real]; exact zip_range_sum x (fun j v => v * Real.cos (dftAngle n j k))

theorem dftIm_eq_sum (x : List ℝ) (n k : ℕ) :
    dftIm x n k = -∑ j ∈ Finset.range x.length, x.getD j 0 * Real.sin (dftAngle n j k) := by
  rw [dftIm, sumA_real]; exact congrArg _ (zip_range_sum x (fun j v => v * Real.sin (dftAngle n j k)))

end HV
