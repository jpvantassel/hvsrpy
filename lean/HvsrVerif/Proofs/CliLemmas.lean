import HvsrVerif.Model.Cli
/-! Lemmas for C19 about Model/Cli.lean.

`nextpow2Loop` and `chunksOf` are defined by well-founded recursion, which neither `decide` nor `rfl` evaluates. Hence
their unfolding equations below (`nextpow2Loop_of_gt/_of_le`, `chunksOf_nil/_cons`), the values `goodN_of_lt`,
`goodN_50001`, `goodN_10001` that the test vectors of Props/C19 need, and the `simp` calls there that list every
definition to unfold; for the same reason Model/Process.lean has its own `nextpow2`, with fuel. -/
namespace HV.Cli

theorem nextpow2Loop_of_gt {n p : Nat} (hp : 0 < p) (h : p > n) : nextpow2Loop n p hp = p := by
  rw [nextpow2Loop]; simp [h]

theorem nextpow2Loop_of_le {n p : Nat} (hp : 0 < p) (h : ¬ p > n) :
    nextpow2Loop n p hp = nextpow2Loop n (p * 2) (by omega) := by
  rw [nextpow2Loop]; simp [h]

theorem nextpow2Loop_spec (n p : Nat) (hp : 0 < p) :
    ∃ k, nextpow2Loop n p hp = p * 2 ^ k ∧ n < p * 2 ^ k ∧ ∀ j, n < p * 2 ^ j → k ≤ j := by
  fun_induction nextpow2Loop n p hp with
  | case1 p hp h => exact ⟨0, (Nat.mul_one p).symm, by rwa [Nat.pow_zero, Nat.mul_one], fun j _ => Nat.zero_le j⟩
  | case2 p hp h ih =>
    obtain ⟨k, hk, hlt, hmin⟩ := ih
    have e : ∀ i, p * 2 * 2 ^ i = p * 2 ^ (i + 1) := fun i => by
      rw [Nat.pow_succ, Nat.mul_assoc, Nat.mul_comm 2]
    refine ⟨k + 1, by rw [hk, e], by rw [← e]; exact hlt, fun j hj => ?_⟩
    cases j with
    | zero => exact absurd (by rwa [Nat.pow_zero, Nat.mul_one] at hj) h
    | succ j => exact Nat.succ_le_succ (hmin j (by rwa [e]))

theorem iter_fixed {σ : Type} {f : σ → σ} {s : σ} (h : f s = s) : ∀ n, iter f n s = s
  | 0 => rfl
  | n + 1 => by rw [iter, h]; exact iter_fixed h n

theorem runChunk_fresh {β : Type} (reps : Nat) (out : Option Nat → File → β) (loaded : FftState) (files : List File) :
    runChunk .fresh reps out loaded files = files.map (alone reps loaded out) := by
  induction files with
  | nil => rfl
  | cons f rest ih => simp only [runChunk, List.map_cons, ih]; rfl

theorem chunksOf_nil {γ : Type} (size : Nat) : chunksOf size ([] : List γ) = [] := by
  rw [chunksOf]; simp

theorem chunksOf_zero {γ : Type} (l : List γ) : chunksOf 0 l = [] := by
  rw [chunksOf]; simp

theorem chunksOf_cons {γ : Type} (size : Nat) (hs : 0 < size) (a : γ) (l : List γ) :
    chunksOf size (a :: l) = (a :: l).take size :: chunksOf size ((a :: l).drop size) := by
  rw [chunksOf]; simp; omega

theorem chunksOf_partition {γ : Type} (size : Nat) (hs : 0 < size) (l : List γ) :
    (chunksOf size l).flatten = l ∧ ∀ c ∈ chunksOf size l, c ≠ [] ∧ c.length ≤ size := by
  fun_induction chunksOf size l with
  | case1 l h =>
    rw [h.resolve_right (Nat.ne_of_gt hs)]
    exact ⟨rfl, fun c hc => nomatch hc⟩
  | case2 l h ih =>
    rw [not_or] at h
    refine ⟨by rw [List.flatten_cons, ih.1, List.take_append_drop], fun c hc => ?_⟩
    rcases List.mem_cons.1 hc with rfl | hc
    · exact ⟨fun e => h.1 ((List.take_eq_nil_iff.1 e).resolve_left h.2), List.length_take_le _ _⟩
    · exact ih.2 c hc

theorem goodN_50001 : goodN 50001 = 65536 := by
  unfold goodN nextpow2
  rw [nextpow2Loop_of_le _ (by decide), nextpow2Loop_of_gt _ (by decide)]

theorem goodN_of_lt {n : Nat} (h : n < 2 ^ 15) : goodN n = 2 ^ 15 := nextpow2Loop_of_gt _ h

theorem goodN_10001 : goodN 10001 = 32768 := goodN_of_lt (by decide)

end HV.Cli
