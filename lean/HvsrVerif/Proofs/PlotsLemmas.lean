import HvsrVerif.Proofs.HvStateLemmas
import HvsrVerif.Proofs.ExceptLemmas
import HvsrVerif.Model.Plots
/-!
# Lemmas about `Model/Plots.lean` for `Props/C20.lean` (same namespace `HV.C20`)

A drawn panel is the concatenation of its blocks (`panelLinesOf_ok`); `panel_filter` gives its artists style by style through
the proof-side table `panelBlock`.
-/
namespace HV

theorem countTrue_add_notMask (m : List Bool) : countTrue m + countTrue (notMask m) = m.length := by
  unfold countTrue notMask
  rw [← List.countP_eq_length_filter, ← List.countP_eq_length_filter, List.countP_map,
    List.length_eq_countP_add_countP id]
  congr 2; funext b; cases b <;> rfl

end HV

namespace HV.C20
variable {o : PanelOpts} {hs : List (HvTrad ℝ)} {st : PanelStats ℝ} {l ls : List (Line ℝ)}

theorem filter_style_of {c0 : StyleClass} (h : ∀ x ∈ l, x.style = c0) (c : StyleClass) :
    l.filter (fun x => decide (x.style = c)) = if c0 = c then l else [] := by
  split
  · rename_i e
    exact List.filter_eq_self.mpr fun x hx => decide_eq_true (e ▸ h x hx)
  · rename_i e
    exact List.filter_eq_nil_iff.mpr fun x hx => by rw [h x hx]; simpa using e

theorem optBlock_style {b : Bool} {f : HvTrad ℝ → List (Line ℝ)} {c : StyleClass}
    (hf : ∀ s, ∀ x ∈ f s, x.style = c) : ∀ x ∈ (if b then hs.flatMap f else []), x.style = c := by
  intro x hx
  split at hx
  · obtain ⟨s, _, hx⟩ := List.mem_flatMap.mp hx
    exact hf s x hx
  · cases hx

@[simp] def curveStyle : Bool → StyleClass
  | true => .acceptedCurve
  | false => .rejectedCurve

@[simp] def peakStyle : Bool → StyleClass
  | true => .peakIndividualValid
  | false => .peakIndividualInvalid

theorem individualLines_style (v : Bool) (s : HvTrad ℝ) : ∀ x ∈ individualLines v s, x.style = curveStyle v := by
  intro x hx
  cases v <;> simp only [individualLines, curveLines, if_true, if_false, Bool.false_eq_true, List.mem_map] at hx <;>
    (obtain ⟨r, _, rfl⟩ := hx; rfl)

theorem peakMarkerLines_style (v : Bool) (s : HvTrad ℝ) : ∀ x ∈ peakMarkerLines v s, x.style = peakStyle v := by
  intro x hx
  unfold peakMarkerLines at hx
  cases v <;> simp only [if_true, if_false, Bool.false_eq_true] at hx <;> split at hx
  · cases hx
  · rw [List.mem_singleton.mp hx]; rfl
  · cases hx
  · rw [List.mem_singleton.mp hx]; rfl

theorem optLines_eq_ok {b : Bool} {x : Except String (List (Line ℝ))}
    (h : (if b then x else pure []) = .ok l) : b = false ∧ l = [] ∨ b = true ∧ x = .ok l := by
  cases b
  · exact Or.inl ⟨rfl, ((pure_eq_ok _ _).mp h).symm⟩
  · exact Or.inr ⟨rfl, h⟩

/-- the mean/std block: nothing, the mean curve alone (diffuse field), or the mean curve with the ±1 std curves -/
theorem meanStdLines_ok (h : meanStdLines o st = .ok l) :
    (o.meanCurve = false ∧ l = []) ∨ o.meanCurve = true ∧ ∃ mc, st.meanCurve o.dMc = .ok mc ∧
      ((st.diffuse = true ∧ l = [{ style := .meanCurve, x := st.freq.map some, y := mc }]) ∨
       st.diffuse = false ∧ ∃ sc, st.stdCurve o.dMc = .ok sc ∧
        l = [{ style := .meanCurve, x := st.freq.map some, y := mc },
             { style := .stdCurve, x := st.freq.map some, y := nthCurve 1 o.dMc mc sc },
             { style := .stdCurve, x := st.freq.map some, y := nthCurve (-1) o.dMc mc sc }]) :=
  (optLines_eq_ok h).imp_right fun ⟨hm, h⟩ => by
    obtain ⟨mc, hmc, h⟩ := (bind_eq_ok _ _ _).mp h
    refine ⟨hm, mc, hmc, ?_⟩
    cases hd : st.diffuse <;> simp only [hd, if_true, Bool.false_eq_true, if_false] at h
    · -- both `nth_std_curve` calls read the same mean and std curves
      simp only [PanelStats.nthStdCurve, bind_eq_ok, pure_eq_ok, hmc, Except.ok.injEq, exists_eq_left'] at h
      obtain ⟨_, ⟨sc, hsc, rfl⟩, _, ⟨sc', hsc', rfl⟩, rfl⟩ := h
      cases hsc.symm.trans hsc'
      exact Or.inr ⟨rfl, sc, hsc, by simp only [ofNat_real, Nat.cast_one]⟩
    · exact Or.inl ⟨rfl, ((pure_eq_ok _ _).mp h).symm⟩

theorem meanStdLines_filter_nil (h : meanStdLines o st = .ok l)
    {c : StyleClass} (h1 : c ≠ .meanCurve) (h2 : c ≠ .stdCurve) : l.filter (fun x => decide (x.style = c)) = [] := by
  rcases meanStdLines_ok h with ⟨_, rfl⟩ | ⟨_, mc, _, ⟨_, rfl⟩ | ⟨_, sc, _, rfl⟩⟩ <;> simp [h1.symm, h2.symm]

theorem fnBandLines_ok (h : fnBandLines o st = .ok l) :
    ((o.freqStd && !st.diffuse) = false ∧ l = []) ∨ (o.freqStd && !st.diffuse) = true ∧
      ∃ lo hi, st.nthFn (-1) o.dFn = .ok lo ∧ st.nthFn 1 o.dFn = .ok hi ∧
        l = [{ style := .fnBand, x := [lo, lo, hi, hi], y := [some 0, some 100, some 100, some 0] }] :=
  (optLines_eq_ok h).imp_right fun ⟨hc, h⟩ => by
    simp only [bind_eq_ok, pure_eq_ok, ofNat_real, Nat.cast_one, Nat.cast_zero, Nat.cast_ofNat] at h
    obtain ⟨lo, hlo, hi, hhi, rfl⟩ := h
    exact ⟨hc, lo, hi, hlo, hhi, rfl⟩

theorem peakMeanLine_ok {d : Dist} (h : peakMeanLine d st = .ok l) :
    ∃ p, st.meanCurvePeak d = .ok p ∧ l = [{ style := .peakMeanCurve, x := [some p.1], y := [some p.2] }] := by
  obtain ⟨p, hp, h⟩ := (bind_eq_ok _ _ _).mp h
  exact ⟨p, hp, ((pure_eq_ok _ _).mp h).symm⟩

theorem peakMeanLines_ok (h : peakMeanLines o st = .ok l) :
    (o.peakMean = false ∧ l = []) ∨ o.peakMean = true ∧ ∃ p, st.meanCurvePeak o.dMc = .ok p ∧
      l = [{ style := .peakMeanCurve, x := [some p.1], y := [some p.2] }] :=
  (optLines_eq_ok h).imp_right fun ⟨hc, h⟩ => ⟨hc, peakMeanLine_ok h⟩

theorem panelLinesOf_ok (h : panelLinesOf o hs st = .ok ls) :
    ∃ l3 l4 l5, meanStdLines o st = .ok l3 ∧ fnBandLines o st = .ok l4 ∧ peakMeanLines o st = .ok l5 ∧
      ls = (if o.validCurves then hs.flatMap (individualLines true) else []) ++
           (if o.invalidCurves then hs.flatMap (individualLines false) else []) ++ (l3 ++ l4 ++ l5) ++
           (if o.peakValid then hs.flatMap (peakMarkerLines true) else []) ++
           (if o.peakInvalid then hs.flatMap (peakMarkerLines false) else []) := by
  simp only [panelLinesOf, statLines, bind_eq_ok, pure_eq_ok] at h
  obtain ⟨_, ⟨l3, h3, l4, h4, l5, h5, rfl⟩, rfl⟩ := h
  exact ⟨l3, l4, l5, h3, h4, h5, rfl⟩

/-- what a panel shows in each style, given its three statistics blocks `l3 l4 l5` -/
def panelBlock (o : PanelOpts) (hs : List (HvTrad ℝ)) (l3 l4 l5 : List (Line ℝ)) : StyleClass → List (Line ℝ)
  | .acceptedCurve => if o.validCurves then hs.flatMap (individualLines true) else []
  | .rejectedCurve => if o.invalidCurves then hs.flatMap (individualLines false) else []
  | .meanCurve => l3.filter (fun x => decide (x.style = .meanCurve))
  | .stdCurve => l3.filter (fun x => decide (x.style = .stdCurve))
  | .fnBand => l4
  | .peakMeanCurve => l5
  | .peakIndividualValid => if o.peakValid then hs.flatMap (peakMarkerLines true) else []
  | .peakIndividualInvalid => if o.peakInvalid then hs.flatMap (peakMarkerLines false) else []
  | .peakMeanByAzimuth => []

theorem panel_filter (h : panelLinesOf o hs st = .ok ls) :
    ∃ l3 l4 l5, meanStdLines o st = .ok l3 ∧ fnBandLines o st = .ok l4 ∧ peakMeanLines o st = .ok l5 ∧
      ∀ c, ls.filter (fun x => decide (x.style = c)) = panelBlock o hs l3 l4 l5 c := by
  obtain ⟨l3, l4, l5, h3, h4, h5, rfl⟩ := panelLinesOf_ok h
  refine ⟨l3, l4, l5, h3, h4, h5, fun c => ?_⟩
  have s4 : ∀ x ∈ l4, x.style = .fnBand := by
    rcases fnBandLines_ok h4 with ⟨_, rfl⟩ | ⟨_, _, _, _, _, rfl⟩ <;> simp
  have s5 : ∀ x ∈ l5, x.style = .peakMeanCurve := by
    rcases peakMeanLines_ok h5 with ⟨_, rfl⟩ | ⟨_, _, _, rfl⟩ <;> simp
  -- every block but `l3` has a single style, so filtering by `c` keeps it whole or drops it (`filter_style_of`);
  -- `l3` holds mean and std artists only (`meanStdLines_filter_nil`); then style by style
  simp only [List.filter_append]
  rw [filter_style_of (optBlock_style (individualLines_style true)) c,
    filter_style_of (optBlock_style (individualLines_style false)) c,
    filter_style_of (optBlock_style (peakMarkerLines_style true)) c,
    filter_style_of (optBlock_style (peakMarkerLines_style false)) c, filter_style_of s4 c, filter_style_of s5 c]
  cases c <;>
    simp only [panelBlock, curveStyle, peakStyle, reduceCtorEq, ↓reduceIte, List.append_nil, List.nil_append, ne_eq,
      not_false_eq_true, meanStdLines_filter_nil h3]

theorem panel_curves (h : panelLinesOf o hs st = .ok ls) (v : Bool) :
    ls.filter (fun l => decide (l.style = curveStyle v)) =
      (if (if v then o.validCurves else o.invalidCurves) then hs.flatMap (individualLines v) else []) := by
  obtain ⟨l3, l4, l5, -, -, -, hc⟩ := panel_filter h
  cases v <;> exact hc _

/-- **generic form of `stat_artists`** for any object kind: per-azimuth objects `hs`, statistics `st` (not diffuse-field) -/
theorem stat_artists_of (h : panelLinesOf o hs st = .ok ls) (hd : st.diffuse = false) :
    (o.meanCurve = true → ∃ mc sc, st.meanCurve o.dMc = .ok mc ∧ st.stdCurve o.dMc = .ok sc ∧
      ls.filter (fun l => decide (l.style = .meanCurve)) =
        [{ style := .meanCurve, x := st.freq.map some, y := mc }] ∧
      ls.filter (fun l => decide (l.style = .stdCurve)) =
        [{ style := .stdCurve, x := st.freq.map some, y := nthCurve 1 o.dMc mc sc },
         { style := .stdCurve, x := st.freq.map some, y := nthCurve (-1) o.dMc mc sc }]) ∧
    (o.freqStd = true → ∃ lo hi, st.nthFn (-1) o.dFn = .ok lo ∧ st.nthFn 1 o.dFn = .ok hi ∧
      ls.filter (fun l => decide (l.style = .fnBand)) =
        [{ style := .fnBand, x := [lo, lo, hi, hi], y := [some 0, some 100, some 100, some 0] }]) ∧
    (o.peakMean = true → ∃ p, st.meanCurvePeak o.dMc = .ok p ∧
      ls.filter (fun l => decide (l.style = .peakMeanCurve)) =
        [{ style := .peakMeanCurve, x := [some p.1], y := [some p.2] }]) ∧
    ls.filter (fun l => decide (l.style = .peakIndividualValid)) =
      (if o.peakValid then hs.flatMap (peakMarkerLines true) else []) ∧
    ls.filter (fun l => decide (l.style = .peakIndividualInvalid)) =
      (if o.peakInvalid then hs.flatMap (peakMarkerLines false) else []) := by
  obtain ⟨l3, l4, l5, h3, h4, h5, hc⟩ := panel_filter h
  refine ⟨fun hm => ?_, fun hf => ?_, fun hp => ?_, hc .peakIndividualValid, hc .peakIndividualInvalid⟩
  · rcases meanStdLines_ok h3 with ⟨hm', _⟩ | ⟨_, mc, hmc, ⟨hd', _⟩ | ⟨_, sc, hsc, rfl⟩⟩
    · rw [hm] at hm'; cases hm'
    · rw [hd] at hd'; cases hd'
    · -- the `rfl` pattern made `l3` the literal three-artist list: `panelBlock … .meanCurve = l3.filter …` evaluates
      exact ⟨mc, sc, hmc, hsc, hc .meanCurve, hc .stdCurve⟩
  · rcases fnBandLines_ok h4 with ⟨hf', _⟩ | ⟨_, lo, hi, hlo, hhi, rfl⟩
    · simp [hf, hd] at hf'
    · exact ⟨lo, hi, hlo, hhi, hc .fnBand⟩
  · rcases peakMeanLines_ok h5 with ⟨hp', _⟩ | ⟨_, p, hpk, rfl⟩
    · rw [hp] at hp'; cases hp'
    · exact ⟨p, hpk, hc .peakMeanCurve⟩

theorem restore_setAll_save (s : HvTrad ℝ) : (ppRestore (ppSetAll (ppSave s))).obj = s := by
  cases s; rfl

theorem recipO_real (x : Option ℝ) : recipO x = x.map (fun v => 1 / v) := by
  cases x <;> simp [recipO, ofNat_real]

theorem recipO_nthStdO (n : ℝ) (m s : Option ℝ) :
    recipO (nthStdO n .lognormal m s) = nthStdO (-n) .lognormal (recipO m) s := by
  match m, s with
  | none, _ => rfl
  | some _, none => rfl
  | some M, some S =>
    simp only [recipO_real, nthStdO, nthStd, Option.map_some, exp_real, log_real]
    rw [one_div, ← Real.exp_neg, one_div, Real.log_inv]
    congr 2; ring

end HV.C20
