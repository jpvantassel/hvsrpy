import HvsrVerif.Proofs.DFTSum
import Mathlib.RingTheory.RootsOfUnity.Complex
import Mathlib.Algebra.Field.GeomSum
import Mathlib.Analysis.SpecialFunctions.Trigonometric.Basic
import Mathlib.Tactic.Ring
import Mathlib.Tactic.FieldSimp
import Mathlib.Tactic.SplitIfs

/-!
The DFT over `ℂ` (`cdft`, with `ζ n = e^{2πi/n}`): orthogonality of the roots of unity, inversion, Parseval. The model's
real `dftRe`/`dftIm` are its real and imaginary part (`dft_eq_cdft`); the model reduces the angle mod `n` before it takes
sine and cosine, which is dealt with once, in `dftAngle_eq`. `halfSum` is the sum over a mirror-symmetric spectrum read off
the bins `0 … n/2` that `rfft` keeps. The part over `ℂ` stands in the root namespace, the part about the model
in `HV`.
-/
open Complex Finset Real

noncomputable section

def ζ (n : ℕ) : ℂ := cexp (2 * π * I / n)
lemma zeta_prim (n : ℕ) (hn : n ≠ 0) : IsPrimitiveRoot (ζ n) n := Complex.isPrimitiveRoot_exp n hn
lemma zeta_norm (n : ℕ) : ‖ζ n‖ = 1 := by
  unfold ζ
  have : (2 * π * I / n : ℂ) = ((2 * π / n : ℝ) : ℂ) * I := by push_cast; ring
  rw [this, Complex.norm_exp_ofReal_mul_I]
lemma conj_zeta_pow (n m : ℕ) : (starRingEnd ℂ) ((ζ n) ^ m) = ((ζ n) ^ m)⁻¹ := by
  exact (Complex.inv_eq_conj (by rw [norm_pow, zeta_norm, one_pow])).symm
lemma geom_sum_of_pow_eq_one (w : ℂ) (n : ℕ) (hw : w ^ n = 1) :
    ∑ k ∈ range n, w ^ k = if w = 1 then (n : ℂ) else 0 := by
  split_ifs with h
  · simp [h]
  · rw [geom_sum_eq h, hw, sub_self, zero_div]
lemma geom_zero (n d : ℕ) (hn : n ≠ 0) (hd0 : 0 < d) (hd : d < n) :
    ∑ k ∈ range n, ((ζ n) ^ d) ^ k = 0 := by
  have hp := zeta_prim n hn
  rw [geom_sum_of_pow_eq_one _ n (by rw [← pow_mul, mul_comm, pow_mul, hp.pow_eq_one, one_pow]),
    if_neg (hp.pow_ne_one_of_pos_of_lt hd0.ne' hd)]
lemma orth (n : ℕ) (hn : n ≠ 0) (a b : ℕ) (ha : a < n) (hb : b < n) :
    ∑ k ∈ range n, (ζ n) ^ (k * a) * (starRingEnd ℂ) ((ζ n) ^ (k * b))
      = if a = b then (n : ℂ) else 0 := by
  have hp := zeta_prim n hn
  have hz : ζ n ^ b ≠ 0 := pow_ne_zero _ (hp.ne_zero hn)
  -- the summand is the `k`-th power of `w = ζ^a / ζ^b`, an `n`-th root of unity that is `1` iff `a = b`
  have e : ∀ k, (ζ n) ^ (k * a) * (starRingEnd ℂ) ((ζ n) ^ (k * b)) = (ζ n ^ a / ζ n ^ b) ^ k := fun k => by
    rw [conj_zeta_pow, div_pow, ← pow_mul', ← pow_mul', div_eq_mul_inv]
  simp only [e]
  rw [geom_sum_of_pow_eq_one _ n (by
    rw [div_pow, ← pow_mul', ← pow_mul', pow_mul, pow_mul, hp.pow_eq_one, one_pow, one_pow, div_one])]
  exact if_congr ((div_eq_one_iff_eq hz).trans ⟨fun h => hp.pow_inj ha hb h, fun h => h ▸ rfl⟩) rfl rfl

/-- n-point DFT (numpy sign convention), input as a function on ℕ, only `j < n` is read -/
def cdft (n : ℕ) (x : ℕ → ℂ) (k : ℕ) : ℂ := ∑ j ∈ range n, x j * (starRingEnd ℂ) ((ζ n) ^ (k * j))

theorem cdft_inversion (n : ℕ) (x : ℕ → ℂ) (j : ℕ) (hj : j < n) :
    ∑ k ∈ range n, cdft n x k * (ζ n) ^ (k * j) = n * x j := by
  have hn : n ≠ 0 := (Nat.zero_lt_of_lt hj).ne'
  unfold cdft
  simp only [Finset.sum_mul]
  rw [Finset.sum_comm]
  -- summed over `k` first, sample `m` carries the orthogonality sum of `j` and `m`
  have e : ∀ m ∈ range n, ∑ k ∈ range n, x m * (starRingEnd ℂ) ((ζ n) ^ (k * m)) * (ζ n) ^ (k * j)
      = x m * (if j = m then (n : ℂ) else 0) := fun m hm => by
    rw [← orth n hn j m hj (Finset.mem_range.mp hm), Finset.mul_sum]
    exact Finset.sum_congr rfl fun k _ => by ring
  rw [Finset.sum_congr rfl e, Finset.sum_eq_single_of_mem j (Finset.mem_range.mpr hj) fun m _ hm => by
    rw [if_neg hm.symm, mul_zero], if_pos rfl, mul_comm]

theorem parseval (n : ℕ) (hn : n ≠ 0) (x : ℕ → ℂ) :
    ∑ k ∈ range n, cdft n x k * (starRingEnd ℂ) (cdft n x k)
      = n * ∑ j ∈ range n, x j * (starRingEnd ℂ) (x j) := by
  -- expand only the conjugated factor and sum over `k` first: what remains is the inversion formula
  have e : ∀ k, (starRingEnd ℂ) (cdft n x k) = ∑ j ∈ range n, (starRingEnd ℂ) (x j) * (ζ n) ^ (k * j) := fun k => by
    simp only [cdft, map_sum, map_mul, Complex.conj_conj]
  simp only [e, Finset.mul_sum]
  rw [Finset.sum_comm]
  refine Finset.sum_congr rfl fun j hj => ?_
  rw [← mul_assoc, ← cdft_inversion n x j (Finset.mem_range.mp hj), Finset.sum_mul]
  exact Finset.sum_congr rfl fun k _ => by ring

end

namespace HV

/-- zero-padded series as a function on ℕ -/
def padR (x : List ℝ) (j : ℕ) : ℝ := x.getD j 0

theorem padR_of_lt {x : List ℝ} {j : ℕ} (h : j < x.length) : padR x j = x[j] := by
  rw [padR, List.getD_eq_getElem?_getD, List.getElem?_eq_getElem h, Option.getD_some]

theorem padR_of_le {x : List ℝ} {j : ℕ} (h : x.length ≤ j) : padR x j = 0 := by
  rw [padR, List.getD_eq_getElem?_getD, List.getElem?_eq_none h, Option.getD_none]

theorem dftAngle_real (n j k : ℕ) : (dftAngle n j k : ℝ) = 2 * π * (((j * k) % n : ℕ) : ℝ) / n := by
  unfold dftAngle
  simp only [ofNat_real, pi_real, Nat.cast_ofNat]

theorem dftAngle_eq (n j k : ℕ) :
    (dftAngle n j k : ℝ) = 2 * π * (j * k : ℕ) / n - ((j * k / n : ℕ) : ℝ) * (2 * π) := by
  rcases eq_or_ne n 0 with rfl | hn
  · rw [dftAngle_real, Nat.cast_zero, div_zero, div_zero, Nat.div_zero, Nat.cast_zero, zero_mul, sub_zero]
  have hn' : (n : ℝ) ≠ 0 := by exact_mod_cast hn
  have : ((j * k : ℕ) : ℝ) = (n : ℝ) * ((j * k / n : ℕ) : ℝ) + ((j * k % n : ℕ) : ℝ) := by
    exact_mod_cast (Nat.div_add_mod (j * k) n).symm
  rw [dftAngle_real, this]; field_simp; ring

theorem cos_dftAngle (n j k : ℕ) : Real.cos (dftAngle n j k) = Real.cos (2 * π * (k * j : ℕ) / n) := by
  rw [dftAngle_eq n j k, Real.cos_sub_nat_mul_two_pi, Nat.mul_comm j k]

theorem sin_dftAngle (n j k : ℕ) : Real.sin (dftAngle n j k) = Real.sin (2 * π * (k * j : ℕ) / n) := by
  rw [dftAngle_eq n j k, Real.sin_sub_nat_mul_two_pi, Nat.mul_comm j k]

theorem dftRe_unreduced (x : List ℝ) (n k : ℕ) :
    dftRe x n k = ∑ j ∈ Finset.range x.length, padR x j * Real.cos (2 * π * (k * j : ℕ) / n) := by
  rw [dftRe_eq_sum]; exact Finset.sum_congr rfl fun j _ => by rw [cos_dftAngle n j k, padR]

theorem dftIm_unreduced (x : List ℝ) (n k : ℕ) :
    dftIm x n k = -∑ j ∈ Finset.range x.length, padR x j * Real.sin (2 * π * (k * j : ℕ) / n) := by
  rw [dftIm_eq_sum]; exact congrArg _ (Finset.sum_congr rfl fun j _ => by rw [sin_dftAngle n j k, padR])

theorem dftRe_zero (x : List ℝ) (n : ℕ) : dftRe x n 0 = x.sum := by
  simp only [dftRe_unreduced, Nat.zero_mul, Nat.cast_zero, mul_zero, zero_div, Real.cos_zero, mul_one]
  exact sum_range_getD x

/-- at the Nyquist bin of an even length the angle is a multiple of `π` -/
theorem sin_nyquist (n j : ℕ) (h2 : n % 2 = 0) : Real.sin (2 * π * ((n / 2 * j : ℕ) : ℝ) / n) = 0 := by
  rcases eq_or_ne n 0 with rfl | hn
  · rw [Nat.cast_zero, div_zero, Real.sin_zero]
  · have hn' : (n : ℝ) ≠ 0 := by exact_mod_cast hn
    rw [Nat.cast_mul, Nat.cast_div (Nat.dvd_of_mod_eq_zero h2) two_ne_zero, Nat.cast_ofNat,
      show 2 * π * ((n : ℝ) / 2 * j) / n = j * π * (n / n) by ring, div_self hn', mul_one, Real.sin_nat_mul_pi]

theorem dftIm_nyquist (x : List ℝ) (n : ℕ) (h2 : n % 2 = 0) : dftIm x n (n / 2) = 0 := by
  rw [dftIm_unreduced x n, neg_eq_zero]
  exact Finset.sum_eq_zero fun j _ => by rw [sin_nyquist n j h2, mul_zero]

theorem zeta_pow_eq (n m : ℕ) :
    (ζ n) ^ m = ((Real.cos (2 * π * (m : ℕ) / n) : ℝ) : ℂ) + ((Real.sin (2 * π * (m : ℕ) / n) : ℝ) : ℂ) * I := by
  rw [ζ, ← Complex.exp_nat_mul, show (m : ℂ) * (2 * π * I / n) = ((2 * π * (m : ℕ) / n : ℝ) : ℂ) * I by push_cast; ring,
    Complex.exp_mul_I, ← Complex.ofReal_cos, ← Complex.ofReal_sin]

theorem dft_eq_cdft (x : List ℝ) (n k : ℕ) (hlen : x.length ≤ n) :
    ((dftRe x n k : ℝ) : ℂ) + ((dftIm x n k : ℝ) : ℂ) * I = cdft n (fun j => ((padR x j : ℝ) : ℂ)) k := by
  rw [cdft, ← Finset.sum_subset (Finset.range_subset_range.2 hlen) fun j _ hj => by
      rw [padR_of_le (by simpa using hj), Complex.ofReal_zero, zero_mul],
    dftRe_unreduced x n k, dftIm_unreduced x n k, Complex.ofReal_neg, Complex.ofReal_sum, Complex.ofReal_sum, neg_mul,
    Finset.sum_mul, ← sub_eq_add_neg, ← Finset.sum_sub_distrib]
  refine Finset.sum_congr rfl fun j _ => ?_
  rw [zeta_pow_eq n (k * j), map_add, map_mul, Complex.conj_ofReal, Complex.conj_ofReal,
    Complex.conj_I]
  push_cast
  ring

theorem parseval_real (x : List ℝ) (n : ℕ) (hn : n ≠ 0) (hlen : x.length ≤ n) :
    ∑ k ∈ Finset.range n, ((dftRe x n k) ^ 2 + (dftIm x n k) ^ 2) = n * ∑ j ∈ Finset.range n, (padR x j) ^ 2 := by
  have h := parseval n hn (fun j => ((padR x j : ℝ) : ℂ))
  simp only [Complex.mul_conj, ← dft_eq_cdft x n _ hlen, Complex.normSq_add_mul_I, Complex.normSq_ofReal, ← sq] at h
  exact_mod_cast h

theorem mirror_angle (n k j : ℕ) (hn : n ≠ 0) (hk : k ≤ n) :
    2 * π * (((n - k) * j : ℕ) : ℝ) / n = j * (2 * π) - 2 * π * ((k * j : ℕ) : ℝ) / n := by
  have hn' : (n : ℝ) ≠ 0 := by exact_mod_cast hn
  rw [Nat.cast_mul, Nat.cast_sub hk, Nat.cast_mul,
    show 2 * π * (((n : ℝ) - k) * j) = n * (j * (2 * π)) - 2 * π * (k * j) by ring, sub_div,
    mul_div_cancel_left₀ _ hn']

theorem dft_symm (x : List ℝ) (n k : ℕ) (hn : n ≠ 0) (hk : k ≤ n) :
    dftRe x n (n - k) = dftRe x n k ∧ dftIm x n (n - k) = -dftIm x n k := by
  rw [dftRe_unreduced x n, dftRe_unreduced x n k, dftIm_unreduced x n, dftIm_unreduced x n k, neg_neg, ← Finset.sum_neg_distrib]
  exact ⟨Finset.sum_congr rfl fun j _ => by
      rw [mirror_angle n k j hn hk, Real.cos_nat_mul_two_pi_sub],
    Finset.sum_congr rfl fun j _ => by
      rw [mirror_angle n k j hn hk, Real.sin_nat_mul_two_pi_sub, mul_neg, neg_neg]⟩

/-- The sum over a full mirror-symmetric spectrum, read off its lower half: bin `0` once, the bins `1 ≤ k < (n+1)/2`
twice and, for even `n`, the middle (Nyquist) bin once. -/
noncomputable def halfSum (n : ℕ) (f : ℕ → ℝ) : ℝ :=
  f 0 + 2 * ∑ k ∈ Finset.Ico 1 ((n + 1) / 2), f k + if n % 2 = 0 then f (n / 2) else 0

/-- `(n + 1) / 2`, where the doubled bins of `halfSum` end, at `n = 2h` and at `n = 2h + 1` -/
theorem two_mul_succ_div_two (h : ℕ) : (2 * h + 1) / 2 = h := Nat.mul_add_div two_pos h 1
theorem two_mul_add_two_div_two (h : ℕ) : (2 * h + 1 + 1) / 2 = h + 1 := Nat.mul_add_div two_pos h 2
theorem two_mul_succ_mod_two (h : ℕ) : (2 * h + 1) % 2 ≠ 0 := (Nat.mul_add_mod 2 h 1).trans_ne one_ne_zero

theorem halfSum_even (h : ℕ) (f : ℕ → ℝ) : halfSum (2 * h) f = f 0 + 2 * ∑ k ∈ Finset.Ico 1 h, f k + f h := by
  rw [halfSum, two_mul_succ_div_two, if_pos (Nat.mul_mod_right 2 h), Nat.mul_div_cancel_left h two_pos]

theorem halfSum_odd (h : ℕ) (f : ℕ → ℝ) : halfSum (2 * h + 1) f = f 0 + 2 * ∑ k ∈ Finset.Ico 1 (h + 1), f k := by
  rw [halfSum, two_mul_add_two_div_two, if_neg (two_mul_succ_mod_two h), add_zero]

theorem halfSum_congr (n : ℕ) (f g : ℕ → ℝ) (h : ∀ k, k ≤ n / 2 → f k = g k) : halfSum n f = halfSum n g := by
  unfold halfSum
  rw [h 0 (Nat.zero_le _), h (n / 2) le_rfl,
    Finset.sum_congr rfl fun k hk => h k (by rw [Finset.mem_Ico] at hk; omega)]

theorem halfSum_interior (n : ℕ) (f : ℕ → ℝ) (h0 : f 0 = 0) (hN : n % 2 = 0 → f (n / 2) = 0) :
    halfSum n f = 2 * ∑ k ∈ Finset.Ico 1 ((n + 1) / 2), f k := by
  rw [halfSum, h0, zero_add, ite_eq_right_iff.mpr hN, add_zero]

theorem halfSum_div (n : ℕ) (f : ℕ → ℝ) (c : ℝ) : halfSum n (fun k => f k / c) = halfSum n f / c := by
  simp only [halfSum, div_eq_mul_inv, ← Finset.sum_mul]
  split_ifs <;> ring

/-- the spectrum with its 0 Hz bin removed (for even `n ≠ 0` the Nyquist bin `n/2` is not bin `0`) -/
theorem halfSum_erase_zero {n : ℕ} (hn : n ≠ 0) (f : ℕ → ℝ) :
    halfSum n (fun k => if k = 0 then 0 else f k) = halfSum n f - f 0 := by
  rw [halfSum, halfSum, if_pos rfl, zero_add, add_assoc (f 0), add_sub_cancel_left,
    Finset.sum_congr rfl fun k hk => if_neg (Nat.one_le_iff_ne_zero.mp (Finset.mem_Ico.mp hk).1)]
  exact congrArg _ (if_ctx_congr Iff.rfl (fun h2 => if_neg (by omega)) fun _ => rfl)

/-- a sum over `1 … n−1` whose terms mirror (`f (n − k) = f k`), cut at `a`: the part from `a` upwards is, reflected, the
part below `b = n + 1 − a` -/
theorem sum_Ico_fold (n a b : ℕ) (hab : a + b = n + 1) (ha : 1 ≤ a) (hb : 1 ≤ b) (f : ℕ → ℝ)
    (hf : ∀ k, k ≤ n → f (n - k) = f k) :
    ∑ k ∈ Finset.Ico 1 n, f k = ∑ k ∈ Finset.Ico 1 a, f k + ∑ k ∈ Finset.Ico 1 b, f k := by
  have hbn : b ≤ n + 1 := hab ▸ Nat.le_add_left b a
  have hr := Finset.sum_Ico_reflect f 1 hbn
  rw [Nat.add_sub_cancel, Nat.sub_eq_of_eq_add hab.symm] at hr
  rw [← Finset.sum_Ico_consecutive f ha (by omega : a ≤ n), ← hr]
  exact congrArg _ (Finset.sum_congr rfl fun k hk => hf k (Nat.le_of_lt_succ ((Finset.mem_Ico.mp hk).2.trans_le hbn)))

theorem sum_range_mirror (n : ℕ) (f : ℕ → ℝ) (hf : ∀ k, k ≤ n → f (n - k) = f k) (hn : n ≠ 0) :
    ∑ k ∈ Finset.range n, f k = halfSum n f := by
  rw [Finset.range_eq_Ico, Finset.sum_eq_sum_Ico_succ_bot (Nat.pos_of_ne_zero hn)]
  -- an even length `2h` is cut below the middle bin `h`, an odd length `2h + 1` between `h` and `h + 1`
  obtain ⟨h, rfl | rfl⟩ := Nat.even_or_odd' n
  · have hh : 1 ≤ h := by omega
    rw [halfSum_even, sum_Ico_fold (2 * h) h (h + 1) (by omega) hh (Nat.le_add_left 1 h) f hf, Finset.sum_Ico_succ_top hh]
    ring
  · rw [halfSum_odd, sum_Ico_fold (2 * h + 1) (h + 1) (h + 1) (by omega) (Nat.le_add_left 1 h) (Nat.le_add_left 1 h) f hf]
    ring

theorem parseval_half (x : List ℝ) (n : ℕ) (hn : n ≠ 0) (hlen : x.length ≤ n) :
    halfSum n (fun k => (dftRe x n k) ^ 2 + (dftIm x n k) ^ 2) = n * ∑ j ∈ Finset.range n, (padR x j) ^ 2 := by
  rw [← parseval_real x n hn hlen, sum_range_mirror n _ (fun k hk => by
    obtain ⟨s1, s2⟩ := dft_symm x n k hn hk
    rw [s1, s2, neg_sq]) hn]

end HV
