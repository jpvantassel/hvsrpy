import HvsrVerif.Proofs.ListLemmas
import HvsrVerif.Model.HvAz
import Mathlib.Algebra.BigOperators.Group.List.Basic
/-! `Model/Stats.lean` over `ℝ`: the sums as `List.sum`; the standard deviation as "the mean, then `stdTail`" (`nanstdW_eq`, the
form the bridge `Bridge/PyVec` meets the translated code in); mean / standard deviation in closed form for the two shapes of
input the library produces (no weights and values with gaps; explicit weights and values without gaps) -/
namespace HV

theorem divO_real (a b : ℝ) : divO a b = if b = 0 then none else some (a / b) := by
  unfold divO
  simp only [eqA_zero, decide_eq_true_eq]

theorem divO_none_iff (a b : ℝ) : divO a b = none ↔ b = 0 := by
  rw [divO_real]; by_cases h : b = 0 <;> simp [h]

/-- the defined entries of a NaN-carrying vector -/
def somes {β : Type} (l : List (Option β)) : List β := l.filterMap (fun x => x)

theorem somes_map_some {β : Type} (l : List β) : somes (l.map some) = l := by
  unfold somes
  rw [List.filterMap_map]
  exact List.filterMap_some

theorem somes_map {β γ : Type} (f : β → γ) (l : List (Option β)) : somes (l.map (·.map f)) = (somes l).map f := by
  unfold somes
  rw [List.filterMap_map, List.map_filterMap]
  rfl

theorem map_some_map {β γ : Type} (f : β → γ) (l : List β) : (l.map some).map (·.map f) = (l.map f).map some := by
  rw [List.map_map, List.map_map]; rfl

theorem pre_normal : (Dist.normal.pre : ℝ → ℝ) = fun x => x := by funext x; rfl
theorem pre_lognormal : (Dist.lognormal.pre : ℝ → ℝ) = Real.log := by funext x; rfl

theorem pre_postMean (d : Dist) (x : ℝ) : (match d with | .normal => d.postMean x | .lognormal => Real.log (d.postMean x)) = x := by
  cases d
  exacts [rfl, Real.log_exp x]

theorem filterMap_someWeights (ws : List ℝ) : (someWeights ws).filterMap id = ws := somes_map_some ws

theorem defaultWeights_filterMap (vals : List (Option ℝ)) :
    (defaultWeights vals).filterMap id = (somes vals).map (fun _ => (1:ℝ)) := by
  unfold defaultWeights
  simp only [ofNat_real, Nat.cast_one]
  exact somes_map _ vals

theorem nansumW_explicit (ws : List ℝ) : nansumW (someWeights ws) = ws.sum := by
  unfold nansumW
  rw [sumA_real, filterMap_someWeights]

theorem nansumW_default (vals : List (Option ℝ)) :
    nansumW (defaultWeights vals) = ((somes vals).length : ℝ) := by
  unfold nansumW
  rw [sumA_real, defaultWeights_filterMap, List.map_const', List.sum_replicate, nsmul_eq_mul, mul_one]

theorem nansumProd_explicit (vals ws : List ℝ) (f : ℝ → ℝ → ℝ) :
    nansumProd (vals.map some) (someWeights ws) f = ((List.zip vals ws).map (fun p => f p.1 p.2)).sum := by
  unfold nansumProd someWeights
  rw [sumA_real, List.zip_map, List.filterMap_map]
  -- on a pair of defined entries the selector is `some (f v w)`
  show (List.filterMap (some ∘ fun p : ℝ × ℝ => f p.1 p.2) _).sum = _
  rw [List.filterMap_eq_map]

theorem nansumProd_default (vals : List (Option ℝ)) (f : ℝ → ℝ → ℝ) :
    nansumProd vals (defaultWeights vals) f = ((somes vals).map (fun v => f v 1)).sum := by
  unfold nansumProd defaultWeights somes
  rw [sumA_real, List.map_filterMap, List.zip_eq_zipWith, List.zipWith_map_right, List.zipWith_self, List.filterMap_map]
  simp only [ofNat_real, Nat.cast_one]
  congr 2
  funext v
  cases v <;> rfl

theorem nanmeanPre_unweighted (d : Dist) (vals : List (Option ℝ)) :
    nanmeanPre d vals none =
      if (somes vals).length = 0 then none
      else some (((somes vals).map d.pre).sum / ((somes vals).length : ℝ)) := by
  unfold nanmeanPre
  simp only
  rw [divO_real, nansumProd_default, nansumW_default, somes_map]
  simp only [mul_one, List.length_map, Nat.cast_eq_zero, List.map_map]
  congr 2

theorem nanmeanW_unweighted (d : Dist) (vals : List (Option ℝ)) :
    nanmeanW d vals none =
      if (somes vals).length = 0 then none
      else some (d.postMean (((somes vals).map d.pre).sum / ((somes vals).length : ℝ))) := by
  unfold nanmeanW
  rw [nanmeanPre_unweighted]
  split <;> rfl

theorem nanmeanPre_weighted (d : Dist) (xs ws : List ℝ) :
    nanmeanPre d (xs.map some) (some ws) =
      divO ((List.zip xs ws).map (fun p => d.pre p.1 * p.2)).sum ws.sum := by
  unfold nanmeanPre
  simp only [map_some_map, nansumProd_explicit, nansumW_explicit]
  rw [List.zip_map_left, List.map_map]
  rfl

/-- the weights array `_nanmean_weighted` / `_nanstd_weighted` work with -/
noncomputable def wsOf (pv : List (Option ℝ)) : Option (List ℝ) → List (Option ℝ)
  | none => defaultWeights pv
  | some w => someWeights w

/-- the part of `nanstdW` after the mean -/
noncomputable def stdTail (pv ws : List (Option ℝ)) (m : ℝ) (den : Denom) : Option ℝ :=
  match den, (ws.filterMap id).length with
  | .nist, 0 => none
  | _, _ => (divO (nansumProd pv ws (fun v w => w * ((v - m) * (v - m))))
      (match den with
        | .nist => ((n# 1) - (n# 1) / (n# (ws.filterMap id).length)) * nansumW ws
        | .cheng => (n# 1) - sumA ((ws.filterMap id).map (fun w => w * w)))).map Transc.sqrt

theorem nanmeanPre_eq (d : Dist) (vals : List (Option ℝ)) (w : Option (List ℝ)) :
    nanmeanPre d vals w = divO (nansumProd (vals.map (·.map d.pre)) (wsOf (vals.map (·.map d.pre)) w) (fun v w => v * w))
      (nansumW (wsOf (vals.map (·.map d.pre)) w)) := by
  cases w <;> rfl

theorem nanstdW_eq (d : Dist) (vals : List (Option ℝ)) (w : Option (List ℝ)) (den : Denom) :
    nanstdW d vals w den = (nanmeanPre d vals w).bind fun m =>
      stdTail (vals.map (·.map d.pre)) (wsOf (vals.map (·.map d.pre)) w)
        (match d with | .normal => m | .lognormal => Transc.log (Transc.exp m)) den := by
  unfold nanstdW nanmeanW
  cases nanmeanPre d vals w with
  | none => rfl
  | some m => cases d <;> cases w <;> rfl

theorem nanstdW_real (d : Dist) (vals : List (Option ℝ)) (w : Option (List ℝ)) (den : Denom) :
    nanstdW d vals w den = (nanmeanPre d vals w).bind fun m =>
      stdTail (vals.map (·.map d.pre)) (wsOf (vals.map (·.map d.pre)) w) m den := by
  rw [nanstdW_eq]
  cases d
  · rfl
  · simp only [log_real, exp_real, Real.log_exp]

theorem stdTail_cheng (pv ws : List (Option ℝ)) (m : ℝ) :
    stdTail pv ws m .cheng = (divO (nansumProd pv ws fun v w => w * ((v - m) * (v - m)))
      (1 - ((ws.filterMap id).map fun w => w * w).sum)).map Real.sqrt := by
  unfold stdTail
  simp only [sumA_real, ofNat_real, Nat.cast_one]
  rfl

theorem stdTail_nist (pv ws : List (Option ℝ)) (m : ℝ) :
    stdTail pv ws m .nist = if (ws.filterMap id).length = 0 then none else
      (divO (nansumProd pv ws fun v w => w * ((v - m) * (v - m)))
        ((1 - 1 / ((ws.filterMap id).length : ℝ)) * nansumW ws)).map Real.sqrt := by
  unfold stdTail
  simp only [ofNat_real, Nat.cast_one]
  split
  · rename_i h; rw [if_pos h]
  · rename_i h; rw [if_neg (fun h0 => h rfl h0)]; rfl

theorem nanstdW_weighted (d : Dist) (xs ws : List ℝ) :
    nanstdW d (xs.map some) (some ws) .cheng = (nanmeanPre d (xs.map some) (some ws)).bind fun m =>
      (divO ((List.zip xs ws).map (fun p => p.2 * ((d.pre p.1 - m) * (d.pre p.1 - m)))).sum
        (1 - (ws.map (fun w => w * w)).sum)).map Real.sqrt := by
  rw [nanstdW_real]
  simp only [stdTail_cheng, wsOf, map_some_map, nansumProd_explicit, filterMap_someWeights]
  simp only [List.zip_map_left, List.map_map]
  rfl

theorem nanstdW_unweighted_eq (d : Dist) (vals : List (Option ℝ)) :
    nanstdW d vals none .nist =
      let xs := (somes vals).map d.pre
      let m := xs.sum / (xs.length : ℝ)
      if xs.length < 2 then none
      else some (Real.sqrt ((xs.map (fun x => (x - m) ^ 2)).sum / ((xs.length : ℝ) - 1))) := by
  rw [nanstdW_real, nanmeanPre_unweighted]
  simp only [stdTail_nist, wsOf, defaultWeights_filterMap, nansumProd_default, nansumW_default, somes_map, List.length_map, one_mul,
    divO_real, ← pow_two]
  by_cases h0 : (somes vals).length = 0
  · rw [if_pos h0, if_pos (h0 ▸ Nat.zero_lt_two)]; rfl
  · have hN : ((somes vals).length : ℝ) ≠ 0 := Nat.cast_ne_zero.mpr h0
    have hden : (1 - 1 / ((somes vals).length : ℝ)) * ((somes vals).length : ℝ) = ((somes vals).length : ℝ) - 1 := by
      rw [sub_mul, one_mul, one_div_mul_cancel hN]
    simp only [h0, if_false, Option.bind_some, hden, sub_eq_zero, Nat.cast_eq_one]
    by_cases h1 : (somes vals).length = 1
    · rw [if_pos h1, if_pos (h1 ▸ Nat.one_lt_two)]; rfl
    · rw [if_neg h1, if_neg (Nat.not_lt.mpr ((Nat.two_le_iff _).mpr ⟨h0, h1⟩))]; rfl

theorem nanstdW_unweighted (d : Dist) (vals : List (Option ℝ)) (h2 : 2 ≤ (somes vals).length) :
    nanstdW d vals none .nist =
      let xs := (somes vals).map d.pre
      let m := xs.sum / (xs.length : ℝ)
      some (Real.sqrt ((xs.map (fun x => (x - m) ^ 2)).sum / ((xs.length : ℝ) - 1))) := by
  rw [nanstdW_unweighted_eq]
  exact if_neg (Nat.not_lt.mpr ((List.length_map _).symm ▸ h2))

theorem somes_perm {β : Type} {a b : List (Option β)} (h : a.Perm b) : (somes a).Perm (somes b) :=
  h.filterMap _

theorem unweighted_congr (d : Dist) {a b : List (Option ℝ)} (h : (somes a).Perm (somes b)) :
    nanmeanW d a none = nanmeanW d b none ∧ nanstdW d a none .nist = nanstdW d b none .nist := by
  have hs := fun f : ℝ → ℝ => ((h.map d.pre).map f).sum_eq
  rw [nanmeanW_unweighted, nanmeanW_unweighted, nanstdW_unweighted_eq, nanstdW_unweighted_eq]
  simp only [h.length_eq, (h.map d.pre).sum_eq, List.length_map, hs, and_self]

theorem zip_replicate_right {β γ : Type} (xs : List β) (n : ℕ) (c : γ) (h : xs.length ≤ n) :
    List.zip xs (List.replicate n c) = xs.map (fun x => (x, c)) := by
  induction xs generalizing n with
  | nil => rfl
  | cons a t ih =>
    cases n with
    | zero => exact absurd h (Nat.not_succ_le_zero _)
    | succ n => rw [List.replicate_succ, List.zip_cons_cons, ih n (Nat.le_of_succ_le_succ h), List.map_cons]

theorem sum_map_nonneg {β : Type} (l : List β) (f : β → ℝ) (h : ∀ x ∈ l, 0 ≤ f x) : 0 ≤ (l.map f).sum :=
  List.sum_nonneg fun _ hy => by obtain ⟨x, hx, rfl⟩ := List.mem_map.mp hy; exact h x hx

end HV
