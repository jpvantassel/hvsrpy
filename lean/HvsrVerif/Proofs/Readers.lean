import Mathlib.Data.Rat.Floor
import Mathlib.Tactic.NormNum
import Mathlib.Data.List.Permutation
import HvsrVerif.Model.Readers
import HvsrVerif.Proofs.ExceptLemmas
/-!
# Lemmas about the reader model `Model/Readers.lean` (C07)

Two passes of the loop body of `_arrange_traces` commute, so the loop does not depend on the order of the traces and
any trace can be moved to the front. The PEER routing of three files in any order goes by argument as well: the search
finds the one vertical wherever it stands, and what is left are the two horizontals in one of two orders.
-/
namespace HV.Rd
variable {σ τ φ κ δ ρ : Type}

theorem findIdx_perm_cons {α : Type} {f : α → Bool} {v : α} (hv : f v = true) :
    ∀ {l rest : List α}, (∀ x ∈ rest, f x = false) → l.Perm (v :: rest) →
      l[l.findIdx f]? = some v ∧ (l.eraseIdx (l.findIdx f)).Perm rest
  | [], _, _, h => absurd h.length_eq (by simp)
  | x :: l', rest, hr, h => by
    rw [List.findIdx_cons]
    rcases List.mem_cons.mp (h.subset List.mem_cons_self) with rfl | hx
    · rw [hv]; exact ⟨rfl, (List.perm_cons x).mp h⟩
    · -- `x` is not the hit: it sits somewhere in `rest = s ++ x :: t`; drop it on both sides and recurse
      obtain ⟨s, t, rfl⟩ := List.append_of_mem hx
      have h' : l'.Perm (v :: (s ++ t)) :=
        (List.perm_cons x).mp (h.trans ((List.perm_middle.cons v).trans (List.Perm.swap _ _ _)))
      obtain ⟨i1, i2⟩ := findIdx_perm_cons hv
        (fun y hy => hr y (List.perm_middle.symm.subset (List.mem_cons_of_mem x hy))) h'
      rw [hr x hx]
      exact ⟨i1, (i2.cons x).trans List.perm_middle.symm⟩

theorem map_some_inj {α : Type} {l l' : List α} (h : l.map some = l'.map some) : l = l' :=
  List.map_injective_iff.mpr (Option.some_injective α) h

/-! ## channel suffixes -/
theorem endsWithC_iff {s : String} {c : Char} : endsWithC s c = true ↔ lastChar s = some c := by
  simp [endsWithC]

theorem endsWithC_of_last {s : String} {c d : Char} (h : lastChar s = some c) : endsWithC s d = (c == d) := by
  simp [endsWithC, h]

theorem ne_of_lastChar {k : String} {c : Char} (h : lastChar k = some c) (s : String) (hs : lastChar s ≠ some c) :
    k ≠ s := by
  rintro rfl; exact hs h

/-- number of traces whose channel name ends in `c` -/
def suffixCount (c : Char) (l : List (String × τ)) : Nat := l.countP (fun t => endsWithC t.1 c)

theorem suffixCount_cons (c : Char) (tr : String × τ) (rest : List (String × τ)) :
    suffixCount c (tr :: rest) = suffixCount c rest + (if endsWithC tr.1 c then 1 else 0) := by
  simp [suffixCount, List.countP_cons]

theorem suffixCount_pos {c : Char} {l : List (String × τ)} {t : String × τ} (ht : t ∈ l) (h : lastChar t.1 = some c) :
    0 < suffixCount c l := by
  unfold suffixCount
  rw [List.countP_pos_iff]
  exact ⟨t, ht, endsWithC_iff.mpr h⟩

/-! ## `_arrange_traces`

The loop body is read through the slot a channel suffix selects (`Slot`, `ArrSt.get`, `ArrSt.set`): with the two
equations `arrangeStep_of_suffix` / `arrangeStep_of_no_suffix` no proof below looks into the `if/elif` chain. -/
/-- the three names `_arrange_traces` binds -/
inductive Slot | e | n | z
  deriving DecidableEq

def Slot.char : Slot → Char
  | .e => 'E' | .n => 'N' | .z => 'Z'

def ArrSt.get (st : ArrSt τ) : Slot → Option τ
  | .e => st.ew | .n => st.ns | .z => st.vt

def ArrSt.set (st : ArrSt τ) (v : τ) : Slot → ArrSt τ
  | .e => { st with ew := some v } | .n => { st with ns := some v } | .z => { st with vt := some v }

theorem Slot.char_inj {s s' : Slot} : s.char = s'.char → s = s' := by
  cases s <;> cases s' <;> decide

theorem ArrSt.get_set (st : ArrSt τ) (v : τ) (s s' : Slot) :
    (st.set v s).get s' = if s = s' then some v else st.get s' := by
  cases s <;> cases s' <;> rfl

theorem ArrSt.set_comm (st : ArrSt τ) (v w : τ) {s s' : Slot} (h : s ≠ s') :
    (st.set v s).set w s' = (st.set w s').set v s := by
  cases s <;> cases s' <;> first | rfl | exact absurd rfl h

theorem arrangeStep_of_suffix {tr : String × τ} {s : Slot} (h : lastChar tr.1 = some s.char) (st : ArrSt τ) :
    arrangeStep st tr = if (st.get s).isNone then .ok (st.set tr.2 s) else .error .value := by
  cases s <;> simp [arrangeStep, endsWithC_of_last h, Slot.char, ArrSt.get, ArrSt.set]

theorem exists_slot_or_no_suffix (k : String) : (∃ s : Slot, lastChar k = some s.char) ∨
    (lastChar k ≠ some 'E' ∧ lastChar k ≠ some 'N' ∧ lastChar k ≠ some 'Z') :=
  or_iff_not_imp_left.mpr fun h => ⟨fun e => h ⟨.e, e⟩, fun e => h ⟨.n, e⟩, fun e => h ⟨.z, e⟩⟩

theorem arrangeStep_of_no_suffix {tr : String × τ}
    (h : lastChar tr.1 ≠ some 'E' ∧ lastChar tr.1 ≠ some 'N' ∧ lastChar tr.1 ≠ some 'Z') (st : ArrSt τ) :
    arrangeStep st tr = .error .value := by
  simp [arrangeStep, endsWithC, h]

/-- two passes of the loop body commute, refusals included: traces for different slots do not see each other, of two
traces for the same slot the second is refused whichever comes first, and a refusal does not depend on the state
unless the slot is full, which it stays -/
theorem arrangeStep_comm (st : ArrSt τ) (x y : String × τ) :
    (arrangeStep st x).bind (arrangeStep · y) = (arrangeStep st y).bind (arrangeStep · x) := by
  rcases exists_slot_or_no_suffix x.1 with ⟨s, hx⟩ | hx <;> rcases exists_slot_or_no_suffix y.1 with ⟨s', hy⟩ | hy
  · simp only [arrangeStep_of_suffix hx, arrangeStep_of_suffix hy]
    by_cases hs : s = s'
    · subst hs; cases st.get s <;> simp [Except.bind, ArrSt.get_set]
    · cases h : st.get s <;> cases h' : st.get s' <;>
        simp [Except.bind, ArrSt.get_set, h, h', hs, Ne.symm hs, ArrSt.set_comm st _ _ hs]
  · simp only [arrangeStep_of_suffix hx, arrangeStep_of_no_suffix hy]
    cases (st.get s).isNone <;> rfl
  · simp only [arrangeStep_of_suffix hy, arrangeStep_of_no_suffix hx]
    cases (st.get s').isNone <;> rfl
  · simp only [arrangeStep_of_no_suffix hx, arrangeStep_of_no_suffix hy]

theorem arrangeLoop_cons (tr : String × τ) (rest : List (String × τ)) :
    arrangeLoop (tr :: rest) = fun st => (arrangeStep st tr).bind (arrangeLoop rest) := by
  funext st; rw [arrangeLoop]; cases arrangeStep st tr <;> rfl

theorem arrangeLoop_perm {l₁ l₂ : List (String × τ)} (h : l₁.Perm l₂) : arrangeLoop l₁ = arrangeLoop l₂ := by
  induction h with
  | nil => rfl
  | cons x _ ih => rw [arrangeLoop_cons, arrangeLoop_cons, ih]
  | swap x y l => funext st; simp only [arrangeLoop_cons]; rw [← bind_bind, ← bind_bind, arrangeStep_comm]
  | trans _ _ ih₁ ih₂ => exact ih₁.trans ih₂

theorem arrangeTraces_perm {l₁ l₂ : List (String × τ)} (h : l₁.Perm l₂) : arrangeTraces l₁ = arrangeTraces l₂ := by
  unfold arrangeTraces; rw [arrangeLoop_perm h]

theorem readObspy_perm {l₁ l₂ : List (String × Comp σ)} (h : l₁.Perm l₂) (deg : Option Rat) :
    readObspy l₁ deg = readObspy l₂ deg := by
  unfold readObspy; rw [arrangeTraces_perm h, h.length_eq]

theorem arrangeStep_ok {st st' : ArrSt τ} {tr : String × τ} (h : arrangeStep st tr = .ok st') :
    ∃ s : Slot, lastChar tr.1 = some s.char ∧ st.get s = none ∧ st' = st.set tr.2 s := by
  rcases exists_slot_or_no_suffix tr.1 with ⟨s, hs⟩ | hs
  · rw [arrangeStep_of_suffix hs] at h
    split at h
    · rename_i h1; cases h; exact ⟨s, hs, Option.isNone_iff_eq_none.mp h1, rfl⟩
    · cases h
  · rw [arrangeStep_of_no_suffix hs] at h; cases h

theorem arrangeLoop_cons_ok {tr : String × τ} {rest : List (String × τ)} {st st' : ArrSt τ}
    (h : arrangeLoop (tr :: rest) st = .ok st') :
    ∃ st1, arrangeStep st tr = .ok st1 ∧ arrangeLoop rest st1 = .ok st' := by
  rw [arrangeLoop_cons] at h; exact (bind_eq_ok _ _ _).mp h

theorem arrangeLoop_slot (s : Slot) {l : List (String × τ)} {st st' : ArrSt τ} (h : arrangeLoop l st = .ok st') :
    (st'.get s = st.get s ∧ suffixCount s.char l = 0) ∨
    (st.get s = none ∧ suffixCount s.char l = 1 ∧ ∃ t ∈ l, lastChar t.1 = some s.char ∧ st'.get s = some t.2) := by
  induction l generalizing st with
  | nil => cases h; exact .inl ⟨rfl, rfl⟩
  | cons tr rest ih =>
    obtain ⟨st1, hstep, hrest⟩ := arrangeLoop_cons_ok h
    obtain ⟨s', hl, h0, rfl⟩ := arrangeStep_ok hstep
    rw [suffixCount_cons]
    by_cases hs : s' = s
    · subst hs
      -- `tr` has just filled slot `s`: the rest cannot have found it empty
      rcases ih hrest with ⟨h2, h3⟩ | ⟨h2, _⟩ <;> rw [ArrSt.get_set, if_pos rfl] at h2
      · exact .inr ⟨h0, by rw [h3, if_pos (endsWithC_iff.mpr hl)], tr, List.mem_cons_self, hl, h2⟩
      · cases h2
    · have hne : lastChar tr.1 ≠ some s.char := fun h => hs (Slot.char_inj (Option.some.inj (hl.symm.trans h)))
      rw [if_neg (by rwa [endsWithC_iff])]
      rcases ih hrest with h2 | ⟨h2, h3, t, ht, h4⟩ <;> rw [ArrSt.get_set, if_neg hs] at h2
      · exact .inl h2
      · exact .inr ⟨h2, h3, t, List.mem_cons_of_mem _ ht, h4⟩

theorem arrangeLoop_suffixes {l : List (String × τ)} {st st' : ArrSt τ} (h : arrangeLoop l st = .ok st')
    {t : String × τ} (ht : t ∈ l) : lastChar t.1 = some 'N' ∨ lastChar t.1 = some 'E' ∨ lastChar t.1 = some 'Z' := by
  obtain ⟨l₁, l₂, rfl⟩ := List.append_of_mem ht
  -- move `t` to the front
  rw [arrangeLoop_perm List.perm_middle] at h
  obtain ⟨_, hstep, _⟩ := arrangeLoop_cons_ok h
  obtain ⟨s, hl, _⟩ := arrangeStep_ok hstep
  cases s
  · exact .inr (.inl hl)
  · exact .inl hl
  · exact .inr (.inr hl)

/-! ## orientation modulo 360, similarity, the constructor -/
theorem degNorm_eq (d : Rat) : degNorm d = d - ⌊d / 360⌋ * 360 := by
  rw [mul_comm]; rfl

theorem degNorm_of_range {d : Rat} (h0 : 0 ≤ d) (h1 : d < 360) : degNorm d = d := by
  rw [degNorm_eq, Int.floor_eq_zero_iff.2 ⟨div_nonneg h0 (Nat.ofNat_nonneg _), (div_lt_one Nat.ofNat_pos).2 h1⟩,
    Int.cast_zero, zero_mul, sub_zero]

theorem degNorm_zero : degNorm 0 = 0 := degNorm_of_range le_rfl (by norm_num)

theorem similar_of_eq {a b : Comp σ} (h1 : b.dt = a.dt) (h2 : b.samples.length = a.samples.length) :
    similar a b = true := by
  simp [similar, h1, h2, ratAbs]

theorem similar_len {a b : Comp σ} (h : similar a b = true) : b.samples.length = a.samples.length := by
  simp [similar] at h
  exact h.2

theorem mkRec_of_eq {ns ew vt : Comp σ} (d : Rat) (h1 : ew.dt = ns.dt) (h2 : vt.dt = ns.dt)
    (h3 : ew.samples.length = ns.samples.length) (h4 : vt.samples.length = ns.samples.length) :
    mkRec ns ew vt d = .ok { ns := ns, ew := ew, vt := vt, deg := degNorm d } := by
  simp [mkRec, similar_of_eq h1 h3, similar_of_eq h2 h4, similar_of_eq (rfl : ns.dt = ns.dt) rfl]

theorem mkRec_inv {ns ew vt : Comp σ} {d : Rat} {r : Rec3 σ} (h : mkRec ns ew vt d = .ok r) :
    r = { ns := ns, ew := ew, vt := vt, deg := degNorm d } ∧
    ew.samples.length = ns.samples.length ∧ vt.samples.length = ns.samples.length := by
  unfold mkRec at h
  split at h
  · rename_i hs
    simp only [Bool.and_eq_true] at hs
    injection h with h
    exact ⟨h.symm, similar_len hs.1.2, similar_len hs.2⟩
  · cases h

theorem safDegrees_none_ok {rot : Option Nat} {n e : Nat} {d : Rat} (h : safDegrees none rot n e = .ok d) :
    (rot = none ∧ d = 0) ∨ ∃ r, rot = some r ∧ ((n = 1 ∧ d = r) ∨ (n ≠ 1 ∧ e = 1 ∧ d = r + 90)) := by
  cases rot with
  | none => cases h; exact .inl ⟨rfl, rfl⟩
  | some r =>
    simp only [safDegrees] at h
    split_ifs at h with h1 h2 <;> cases h
    · exact .inr ⟨r, rfl, .inl ⟨h1, rfl⟩⟩
    · exact .inr ⟨r, rfl, .inr ⟨h1, h2, by simp [readerConsts]⟩⟩

/-! ## the row loop of the text formats -/
theorem checkNpts_ok {a b : Nat} {u : Unit} (h : checkNpts a b = .ok u) : a = b := by
  simpa [checkNpts] using h

theorem rowLoop_ok {npts c0 c1 c2 : Nat} {rows : List (σ × σ × σ)} {idx : Nat} {as bs cs : List σ} {n : Nat}
    (h : rowLoop npts c0 c1 c2 rows idx = .ok (as, bs, cs, n)) :
    n = idx + rows.length ∧
    as.map some = rows.map (rowGet · c0) ∧ bs.map some = rows.map (rowGet · c1) ∧ cs.map some = rows.map (rowGet · c2) := by
  induction rows generalizing idx as bs cs n with
  | nil => cases h; simp
  | cons row rest ih =>
    simp only [rowLoop] at h
    split at h
    · rename_i a b c ha hb hc
      split at h
      · split at h
        · rename_i as' bs' cs' n' hrec
          cases h
          obtain ⟨i1, i3, i4, i5⟩ := ih hrec
          exact ⟨by rw [i1, List.length_cons]; omega, congrArg₂ _ ha.symm i3, congrArg₂ _ hb.symm i4, congrArg₂ _ hc.symm i5⟩
        · cases h
      · cases h
    · cases h

theorem rowGet_of_lt (row : σ × σ × σ) : ∀ {c : Nat}, c < 3 → ∃ a, rowGet row c = some a
  | 0, _ => ⟨_, rfl⟩
  | 1, _ => ⟨_, rfl⟩
  | 2, _ => ⟨_, rfl⟩

theorem rowLoop_total (npts c0 c1 c2 : Nat) (h0 : c0 < 3) (h1 : c1 < 3) (h2 : c2 < 3) (rows : List (σ × σ × σ)) :
    ∀ idx, idx + rows.length ≤ npts → ∃ r, rowLoop npts c0 c1 c2 rows idx = .ok r := by
  induction rows with
  | nil => exact fun idx _ => ⟨_, rfl⟩
  | cons row rest ih =>
    intro idx hle
    rw [List.length_cons] at hle
    obtain ⟨r, hr⟩ := ih (idx + 1) (by omega)
    obtain ⟨a, ha⟩ := rowGet_of_lt row h0
    obtain ⟨b, hb⟩ := rowGet_of_lt row h1
    obtain ⟨c, hc⟩ := rowGet_of_lt row h2
    simp only [rowLoop, ha, hb, hc]
    rw [if_pos (by omega), hr]
    exact ⟨_, rfl⟩

/-! ## inversion of the assembly functions

One `split` per `match` of the model's chain: the matches on `Option Nat` share a matcher, those on the `Except` results
have one each, so no single inversion lemma fires at every step. -/
/-- what a successful `_read_saf` found, by name: the header (`fs`, `v`, `n`, `e` are the values of `SAMP_FREQ` and of the
three channel numbers), the orientation `d` the NORTH_ROT rule delivered, the recording as columns of the rows -/
structure SafOk (h : SafHeader) (deg : Option Rat) (rows : List (σ × σ × σ)) (r : Rec3 σ) (fs v n e : Nat) (d : Rat) :
    Prop where
  version : h.version = true
  ndat : h.ndat = some rows.length
  sampFreq : h.fs = some fs
  sampFreq_ne : fs ≠ 0
  vCh : h.vCh = some v
  nCh : h.nCh = some n
  eCh : h.eCh = some e
  rule : safDegrees deg h.northRot n e = .ok d
  vt : r.vt.samples.map some = rows.map (rowGet · v)
  ns : r.ns.samples.map some = rows.map (rowGet · n)
  ew : r.ew.samples.map some = rows.map (rowGet · e)
  dt_ns : r.ns.dt = 1 / (fs : Rat)
  dt_ew : r.ew.dt = 1 / (fs : Rat)
  dt_vt : r.vt.dt = 1 / (fs : Rat)
  orient : r.deg = degNorm d

theorem saf_unfold {h : SafHeader} {deg : Option Rat} {rows : List (σ × σ × σ)} {r : Rec3 σ}
    (hr : safAssemble h deg rows = .ok r) : ∃ fs v n e d, SafOk h deg rows r fs v n e d := by
  unfold safAssemble at hr
  split at hr
  · cases hr
  rename_i hver
  split at hr
  · cases hr
  rename_i npts hnd
  split at hr
  · cases hr
  rename_i fs hfs
  split at hr
  · cases hr
  rename_i hz
  split at hr
  · cases hr
  rename_i v hv
  split at hr
  · cases hr
  rename_i n hn
  split at hr
  · cases hr
  rename_i e he
  split at hr
  · cases hr
  rename_i d hd
  split at hr
  · cases hr
  rename_i vt ns ew found hl
  split at hr
  · cases hr
  rename_i u hc
  obtain rfl := checkNpts_ok hc
  obtain ⟨hcount, c0, c1, c2⟩ := rowLoop_ok hl
  obtain ⟨rfl, _, _⟩ := mkRec_inv hr
  exact ⟨fs, v, n, e, d, by simpa using hver, by rw [hnd, hcount, Nat.zero_add], hfs, hz, hv, hn, he, hd, c0, c1, c2,
    rfl, rfl, rfl, rfl⟩

theorem msharkScale_eq (gain conv : Nat) :
    msharkScale gain conv = fun x : Int => (x : Rat) / ((gain : Rat) * (conv : Rat)) :=
  funext fun _ => div_div _ _ _

/-- what a successful `_read_minishark` found, by name (`fs`, `g`, `c`: sample rate, gain, conversion factor); the columns
are vertical, north, east in file order -/
structure MsharkOk (h : MsharkHeader) (deg : Option Rat) (rows : List (Int × Int × Int)) (r : Rec3 Rat) (fs g c : Nat) :
    Prop where
  ndat : h.ndat = some rows.length
  sampRate : h.fs = some fs
  sampRate_ne : fs ≠ 0
  conv : h.conv = some c
  gain : h.gain = some g
  vt : r.vt.samples = (rows.map (·.1)).map (msharkScale g c)
  ns : r.ns.samples = (rows.map (·.2.1)).map (msharkScale g c)
  ew : r.ew.samples = (rows.map (·.2.2)).map (msharkScale g c)
  dt_ns : r.ns.dt = 1 / (fs : Rat)
  dt_ew : r.ew.dt = 1 / (fs : Rat)
  dt_vt : r.vt.dt = 1 / (fs : Rat)
  orient : r.deg = degNorm (deg.getD 0)

theorem mshark_unfold {h : MsharkHeader} {deg : Option Rat} {rows : List (Int × Int × Int)} {r : Rec3 Rat}
    (hr : minisharkAssemble h deg rows = .ok r) : ∃ fs g c, MsharkOk h deg rows r fs g c := by
  unfold minisharkAssemble at hr
  split at hr
  · cases hr
  rename_i npts hnd
  split at hr
  · cases hr
  rename_i fs hfs
  split at hr
  · cases hr
  rename_i hz
  split at hr
  · cases hr
  rename_i conv hcv
  split at hr
  · cases hr
  rename_i gain hg
  split at hr
  · cases hr
  rename_i vt ns ew found hl
  split at hr
  · cases hr
  rename_i u hc
  obtain rfl := checkNpts_ok hc
  obtain ⟨hcount, c0, c1, c2⟩ := rowLoop_ok hl
  obtain ⟨rfl, _, _⟩ := mkRec_inv hr
  obtain rfl : vt = rows.map (·.1) := map_some_inj (by rw [c0, List.map_map]; rfl)
  obtain rfl : ns = rows.map (·.2.1) := map_some_inj (by rw [c1, List.map_map]; rfl)
  obtain rfl : ew = rows.map (·.2.2) := map_some_inj (by rw [c2, List.map_map]; rfl)
  exact ⟨fs, gain, conv, by rw [hnd, hcount, Nat.zero_add], hfs, hz, hcv, hg, rfl, rfl, rfl, rfl, rfl, rfl, rfl⟩

theorem peerFile_ok {f : PeerFile σ} {x : String × Comp σ} (h : peerFile f = .ok x) :
    f.npts = some f.samples.length ∧ f.key = some x.1 ∧ x.2.samples = f.samples ∧ f.dt = some x.2.dt := by
  unfold peerFile at h
  split at h
  · cases h
  rename_i key hk
  split at h
  · cases h
  rename_i npts hn
  split at h
  · cases h
  rename_i dt hd
  split at h
  · cases h
  split at h
  · cases h
  rename_i u hc
  obtain rfl := checkNpts_ok hc
  cases h
  exact ⟨hn, hk, rfl, hd⟩

theorem peerFiles_ok {files : List (PeerFile σ)} {comps : List (String × Comp σ)} (h : peerFiles files = .ok comps)
    {f : PeerFile σ} (hf : f ∈ files) : f.npts = some f.samples.length := by
  induction files generalizing comps with
  | nil => cases hf
  | cons f0 rest ih =>
    simp only [peerFiles] at h
    split at h
    · cases h
    rename_i x hx
    split at h
    · cases h
    rename_i xs hxs
    rcases List.mem_cons.mp hf with rfl | hf
    · exact (peerFile_ok hx).1
    · exact ih hxs hf

/-! ## PEER: consistent files and the routing step -/
/-- a PEER file whose header agrees with its content: `(direction code, samples)` at time step `d` -/
def peerOf (d : Rat) (ks : String × List σ) : PeerFile σ :=
  { key := some ks.1, npts := some ks.2.length, dt := some d, samples := ks.2 }

def compOf (d : Rat) (ks : String × List σ) : String × Comp σ := (ks.1, ⟨ks.2, d⟩)

theorem peerFiles_map (d : Rat) (l : List (String × List σ)) :
    peerFiles (l.map (peerOf d)) = .ok (l.map (compOf d)) := by
  induction l with
  | nil => rfl
  | cons x rest ih => simp [peerFiles, ih, peerFile, peerOf, compOf, checkNpts]

/-- the `if` of the conclusion is the common body of `indexOfStr` and `indexOfZ`, the test `p` left open -/
theorem vertical_perm {comps : List (String × Comp σ)} {v x y : String × Comp σ} {p : String → Bool}
    (hv : p v.1 = true) (hx : p x.1 = false) (hy : p y.1 = false) (hf : comps.Perm [v, x, y]) :
    ∃ i, (if (comps.map (·.1)).findIdx p < (comps.map (·.1)).length then some ((comps.map (·.1)).findIdx p) else none) = some i ∧
      comps[i]? = some v ∧ (comps.eraseIdx i).Perm [x, y] := by
  obtain ⟨h1, h2⟩ := findIdx_perm_cons (f := fun c : String × Comp σ => p c.1) hv
    (List.forall_mem_cons.mpr ⟨hx, List.forall_mem_singleton.mpr hy⟩) hf
  refine ⟨_, ?_, h1, h2⟩
  rw [List.findIdx_map, List.length_map]
  exact if_pos (List.getElem?_eq_some_iff.mp h1).1

theorem indexOfStr_none {comps : List (String × Comp σ)} {v x y : String × Comp σ} (hf : comps.Perm [v, x, y]) {k : String}
    (hv : v.1 ≠ k) (hx : x.1 ≠ k) (hy : y.1 ≠ k) : indexOfStr (comps.map (·.1)) k = none := by
  have : (comps.map (·.1)).findIdx (· == k) = (comps.map (·.1)).length :=
    List.findIdx_eq_length.mpr fun s hs => by
      -- `s` is one of the three keys
      rcases (by simpa using (hf.map (·.1)).subset hs : s = v.1 ∨ s = x.1 ∨ s = y.1) with rfl | rfl | rfl <;> simpa
  simp only [indexOfStr, this, Nat.lt_irrefl, if_false]

theorem rdArg_pair {x y : Nat} (h : x < y) :
    (rdArgmin [x, y] = some (0, x) ∧ rdArgmax [x, y] = some (1, y)) ∧
    (rdArgmin [y, x] = some (1, x) ∧ rdArgmax [y, x] = some (0, y)) := by
  simp [rdArgmin, rdArgmax, h, Nat.lt_asymm h]

/-- numeric azimuth codes: whatever the order of the three files, the `UP`/`VER` one is the vertical, the code nearer
north the north component and the other one east -/
theorem peerRoute_numeric {kU ka kb : String} {a b : Nat} {cU ca cb : Comp σ}
    (hU : kU = "UP" ∨ kU = "VER") (ha : parseNat ka = some a) (hb : parseNat kb = some b)
    (ha1 : ka ≠ "UP") (ha2 : ka ≠ "VER") (hb1 : kb ≠ "UP") (hb2 : kb ≠ "VER")
    (hlt : (relAz a).natAbs < (relAz b).natAbs)
    {comps : List (String × Comp σ)} (hf : comps.Perm [(kU, cU), (ka, ca), (kb, cb)]) :
    peerRoute comps = .ok (ca, cb, cU, (a : Int)) := by
  have hka : ka ≠ kU := by rcases hU with rfl | rfl <;> assumption
  have hkb : kb ≠ kU := by rcases hU with rfl | rfl <;> assumption
  obtain ⟨i, h0, hi, he⟩ := vertical_perm (p := (· == kU)) (beq_self_eq_true kU) (beq_false_of_ne hka) (beq_false_of_ne hkb) hf
  have hv : peerVertical (comps.map (·.1)) = .ok (i, true) := by
    rcases hU with rfl | rfl
    · simp only [peerVertical, indexOfStr, h0]
    · rw [peerVertical, indexOfStr_none hf (by decide : "VER" ≠ "UP") ha1 hb1]; simp only [indexOfStr, h0]
  unfold peerRoute
  rw [hv]; dsimp only; rw [hi]; dsimp only
  -- in either order of the horizontals `argmin` is the file coded `a`, `argmax` the one coded `b`
  obtain ⟨⟨min₁, max₁⟩, min₂, max₂⟩ := rdArg_pair hlt
  rcases List.perm_pair.mp he with h | h <;> rw [h]
  · simp only [List.map, keysToInt, ha, hb, min₁, max₁]; rfl
  · simp only [List.map, keysToInt, ha, hb, min₂, max₂]; rfl

/-- letter codes: the key ending in `Z`/`z` is the vertical, `..N` north, `..E` east, no orientation from the files -/
theorem peerRoute_letters {kZ kN kE : String} {cZ cN cE : Comp σ}
    (hZ : lastChar kZ = some 'Z' ∨ lastChar kZ = some 'z') (hN : lastChar kN = some 'N') (hE : lastChar kE = some 'E')
    {comps : List (String × Comp σ)} (hf : comps.Perm [(kZ, cZ), (kN, cN), (kE, cE)]) :
    peerRoute comps = .ok (cN, cE, cZ, 0) := by
  have hno : ∀ k, k = "UP" ∨ k = "VER" → indexOfStr (comps.map (·.1)) k = none := by
    rintro k (rfl | rfl) <;>
      exact indexOfStr_none hf (hZ.elim (ne_of_lastChar · _ (by decide)) (ne_of_lastChar · _ (by decide)))
        (ne_of_lastChar hN _ (by decide)) (ne_of_lastChar hE _ (by decide))
  obtain ⟨i, h0, hi, he⟩ := vertical_perm (p := fun k => (lastChar k).map Char.toLower == some 'z')
    (by rcases hZ with h | h <;> simp [h]) (by simp [hN]) (by simp [hE]) hf
  have hv : peerVertical (comps.map (·.1)) = .ok (i, false) := by
    simp only [peerVertical, hno "UP" (.inl rfl), hno "VER" (.inr rfl), indexOfZ, h0]
  unfold peerRoute
  rw [hv]; dsimp only; rw [hi]; dsimp only
  -- `peerLetters` overwrites per suffix, so the two orders of the horizontals give the same pair
  rcases List.perm_pair.mp he with h | h <;> rw [h]
  · simp [peerLetters, hN, hE]
  · simp [peerLetters, hN, hE]

theorem trimTo_length {n : Nat} {c : Comp σ} (h : n ≤ c.samples.length) : (trimTo n c).samples.length = n :=
  List.length_take.trans (Nat.min_eq_left h)

/-- the tail of `_read_peer` once the routing is known: orientation, trimming to the shortest, construction -/
theorem peerAssemble_of_route (d : Rat) (l : List (String × List σ)) (deg : Option Rat)
    (sn se sv : List σ) (a : Int) (hroute : peerRoute (l.map (compOf d)) = .ok (⟨sn, d⟩, ⟨se, d⟩, ⟨sv, d⟩, a)) :
    peerAssemble (l.map (peerOf d)) deg =
      .ok { ns := ⟨sn.take (min (min sn.length se.length) sv.length), d⟩,
            ew := ⟨se.take (min (min sn.length se.length) sv.length), d⟩,
            vt := ⟨sv.take (min (min sn.length se.length) sv.length), d⟩,
            deg := degNorm (deg.getD ((a % 360 : Int) : Rat)) } := by
  unfold peerAssemble
  rw [peerFiles_map]
  cases l with
  | nil => simp [peerRoute, peerVertical, indexOfStr, indexOfZ] at hroute
  | cons x rest =>
    have hdt : ((compOf d x :: rest.map (compOf d)).any fun kc => decide (kc.2.dt ≠ (compOf d x).2.dt)) = false := by
      simp [compOf]
    simp only [List.map_cons] at hroute ⊢
    rw [hdt, if_neg Bool.false_ne_true, hroute]
    dsimp only
    have hn : min (min sn.length se.length) sv.length ≤ sn.length := le_trans (min_le_left _ _) (min_le_left _ _)
    have he : min (min sn.length se.length) sv.length ≤ se.length := le_trans (min_le_left _ _) (min_le_right _ _)
    rw [mkRec_of_eq (ns := trimTo _ ⟨sn, d⟩) (ew := trimTo _ ⟨se, d⟩) (vt := trimTo _ ⟨sv, d⟩) _ rfl rfl
      ((trimTo_length he).trans (trimTo_length hn).symm)
      ((trimTo_length (min_le_right _ _)).trans (trimTo_length hn).symm)]
    cases deg
    · simp only [Int.emod_def]; rfl
    · rfl

/-! ## `read` (broadcasting) and `read_single` (the trial loop) -/
theorem Arg.get?_tail {α : Type} (a : Arg α) (i : Nat) : a.tail.get? i = a.get? (i + 1) := by
  cases a with
  | scalar x => rfl
  | many l => cases l <;> rfl

theorem Arg.head?_eq {α : Type} (a : Arg α) : a.head? = a.get? 0 := by
  cases a with
  | scalar x => rfl
  | many l => cases l <;> rfl

theorem Arg.head?_tail_of_length_succ {α : Type} {a : Arg α} {n : Nat} (h : ∀ l, a = .many l → l.length = n + 1) :
    (∃ x, a.head? = some x) ∧ ∀ l, a.tail = .many l → l.length = n := by
  cases a with
  | scalar x => exact ⟨⟨x, rfl⟩, fun l hl => nomatch hl⟩
  | many l0 =>
    -- `[]` has length 0, not `n + 1`: no case for it
    match l0, h l0 rfl with
    | x :: xs, hx => exact ⟨⟨x, rfl⟩, fun l hl => by cases hl; simpa using hx⟩

theorem broadcast_length (fnames : List (FArg φ)) : ∀ (kw : Arg κ) (dg : Arg δ),
    (∀ l, kw = .many l → l.length = fnames.length) → (∀ l, dg = .many l → l.length = fnames.length) →
    (broadcastArgs fnames kw dg).length = fnames.length := by
  induction fnames with
  | nil => intro kw dg _ _; rfl
  | cons f fs ih =>
    intro kw dg hk hd
    obtain ⟨⟨k, hk1⟩, hk2⟩ := Arg.head?_tail_of_length_succ hk
    obtain ⟨⟨d, hd1⟩, hd2⟩ := Arg.head?_tail_of_length_succ hd
    rw [broadcastArgs, hk1, hd1, List.length_cons, List.length_cons, ih _ _ hk2 hd2]

theorem trial_of_getElem? : ∀ (l : List (String × Except RdErr ρ)) (i : Nat) (nm : String) (r : ρ),
    l[i]? = some (nm, .ok r) → (∀ j, j < i → ∃ n e, l[j]? = some (n, .error e) ∧ n ≠ reraiseName) → trial l = .ok r
  | [], _, _, _, h, _ => by cases h
  | _ :: _, 0, _, _, h, _ => by cases h; rfl
  | _ :: l, i + 1, nm, r, h, hpre => by
    obtain ⟨_, _, h0, hn⟩ := hpre 0 i.succ_pos
    cases h0
    rw [trial, if_neg (by simpa using hn)]
    exact trial_of_getElem? l i nm r h fun j hj => hpre (j + 1) (Nat.succ_lt_succ hj)

end HV.Rd
