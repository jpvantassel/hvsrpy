import HvsrVerif.Model.Settings
/-!
# The aliasing model `Model/Settings.lean`: separation of the groups, save / load / dispatch

Whatever creates objects takes their locations from the counter (`Alloc`), so they are above every
location in use. With the invariant `Inv` (no location in two groups, all of them below the counter,
every default object stored deeply enough by its parameter) a safe operation is a `GroupsStep`: it
changes its target group only, and the invariant holds again. No Mathlib.
-/
namespace HV.Settings

/-! ## locations -/

theorem mem_idsL {i : Nat} : ∀ {cs : List Val}, i ∈ idsL cs ↔ ∃ c ∈ cs, i ∈ c.ids
  | [] => by simp [idsL]
  | v :: vs => by
    simp only [idsL, List.mem_append, List.mem_cons, exists_eq_or_imp, mem_idsL (cs := vs)]

theorem mem_idsF {i : Nat} : ∀ {fs : List (String × Val)}, i ∈ idsF fs ↔ ∃ kv ∈ fs, i ∈ kv.2.ids
  | [] => by simp [idsF]
  | (k, v) :: rest => by
    simp only [idsF, List.mem_append, List.mem_cons, exists_eq_or_imp, mem_idsF (fs := rest)]

/-- an operation that started with the counter at `n` left it at `n'`, and the locations `l` of
what it built are new: they lie in `[n, n')` -/
def Alloc (n n' : Nat) (l : List Nat) : Prop := n ≤ n' ∧ ∀ i ∈ l, n ≤ i ∧ i < n'

theorem Alloc.nil (n : Nat) : Alloc n n [] := ⟨Nat.le_refl _, by simp⟩

theorem Alloc.cons {n n' : Nat} {l : List Nat} (h : Alloc (n + 1) n' l) : Alloc n n' (n :: l) :=
  ⟨Nat.le_of_succ_le h.1, fun i hi => by
    rcases List.mem_cons.1 hi with rfl | hi
    · exact ⟨Nat.le_refl _, h.1⟩
    · exact ⟨Nat.le_of_succ_le (h.2 i hi).1, (h.2 i hi).2⟩⟩

theorem Alloc.append {n m k : Nat} {l₁ l₂ : List Nat} (h₁ : Alloc n m l₁) (h₂ : Alloc m k l₂) :
    Alloc n k (l₁ ++ l₂) :=
  ⟨Nat.le_trans h₁.1 h₂.1, fun i hi => by
    rcases List.mem_append.1 hi with hi | hi
    · exact ⟨(h₁.2 i hi).1, Nat.lt_of_lt_of_le (h₁.2 i hi).2 h₂.1⟩
    · exact ⟨Nat.le_trans h₁.1 (h₂.2 i hi).1, (h₂.2 i hi).2⟩⟩

mutual
theorem relabel_alloc (n : Nat) : ∀ v : Val, Alloc n (v.relabel n).2 (v.relabel n).1.ids
  | .sc _ => Alloc.nil n
  | .node _ _ cs => (relabelL_alloc (n + 1) cs).cons
theorem relabelL_alloc (n : Nat) : ∀ vs : List Val, Alloc n (relabelL n vs).2 (idsL (relabelL n vs).1)
  | [] => Alloc.nil n
  | v :: vs => (relabel_alloc n v).append (relabelL_alloc _ vs)
end

mutual
theorem toVal_alloc (n : Nat) : ∀ j : Json, Alloc n (j.toVal n).2 (j.toVal n).1.ids
  | .sc _ => Alloc.nil n
  | .arr xs => (toValL_alloc (n + 1) xs).cons
  | .obj _ xs => (toValL_alloc (n + 1) xs).cons
theorem toValL_alloc (n : Nat) : ∀ js : List Json, Alloc n (toValL n js).2 (idsL (toValL n js).1)
  | [] => Alloc.nil n
  | j :: js => (toVal_alloc n j).append (toValL_alloc _ js)
end

theorem toValL_range (n : Nat) : ∀ js : List Json,
    n ≤ (toValL n js).2 ∧ ∀ i ∈ idsL (toValL n js).1, n ≤ i ∧ i < (toValL n js).2 :=
  toValL_alloc n

mutual
theorem toVal_canon (n : Nat) : ∀ j : Json, (j.toVal n).1.canon = j
  | .sc s => by simp [Json.toVal, Val.canon]
  | .arr xs => by simp [Json.toVal, Val.canon, toValL_canon (n + 1) xs]
  | .obj ks xs => by simp [Json.toVal, Val.canon, toValL_canon (n + 1) xs]
theorem toValL_canon (n : Nat) : ∀ js : List Json, canonL (toValL n js).1 = js
  | [] => by simp [toValL, canonL]
  | j :: js => by simp [toValL, canonL, toVal_canon n j, toValL_canon _ js]
end

mutual
theorem relabel_canon (n : Nat) : ∀ v : Val, (v.relabel n).1.canon = v.canon
  | .sc s => by simp [Val.relabel, Val.canon]
  | .node i k cs => by
    cases k <;> simp [Val.relabel, Val.canon, relabelL_canon (n + 1) cs]
theorem relabelL_canon (n : Nat) : ∀ vs : List Val, canonL (relabelL n vs).1 = canonL vs
  | [] => by simp [relabelL, canonL]
  | v :: vs => by simp [relabelL, canonL, relabel_canon n v, relabelL_canon _ vs]
end

mutual
theorem subst_of_not_mem (l : Nat) (k' : Kind) (cs' : List Val) :
    ∀ v : Val, l ∉ v.ids → v.subst l k' cs' = v
  | .sc s, _ => by simp [Val.subst]
  | .node i k cs, h => by
    simp only [Val.ids, List.mem_cons, not_or] at h
    simp [Val.subst, Ne.symm h.1, substL_of_not_mem l k' cs' cs h.2]
theorem substL_of_not_mem (l : Nat) (k' : Kind) (cs' : List Val) :
    ∀ vs : List Val, l ∉ idsL vs → substL l k' cs' vs = vs
  | [], _ => by simp [substL]
  | v :: vs, h => by
    simp only [idsL, List.mem_append, not_or] at h
    simp [substL, subst_of_not_mem l k' cs' v h.1, substL_of_not_mem l k' cs' vs h.2]
end

mutual
theorem ids_subst (l : Nat) (k' : Kind) (cs' : List Val) :
    ∀ v : Val, ∀ i ∈ (v.subst l k' cs').ids, i ∈ v.ids ∨ i ∈ idsL cs'
  | .sc s => by simp [Val.subst, Val.ids]
  | .node j k cs => by
    intro i hi
    simp only [Val.subst, Val.ids] at hi ⊢
    split at hi <;> rcases List.mem_cons.1 hi with hi | hi
    · exact .inl (List.mem_cons.2 (.inl hi))
    · exact .inr hi
    · exact .inl (List.mem_cons.2 (.inl hi))
    · exact (ids_substL l k' cs' cs i hi).imp_left (List.mem_cons_of_mem _)
theorem ids_substL (l : Nat) (k' : Kind) (cs' : List Val) :
    ∀ vs : List Val, ∀ i ∈ idsL (substL l k' cs' vs), i ∈ idsL vs ∨ i ∈ idsL cs'
  | [] => by simp [substL, idsL]
  | v :: vs => by
    intro i hi
    simp only [substL, idsL, List.mem_append] at hi ⊢
    rcases hi with hi | hi
    · exact (ids_subst l k' cs' v i hi).imp_left .inl
    · exact (ids_substL l k' cs' vs i hi).imp_left .inr
end

theorem child_mem {k : Kind} {cs : List Val} {s : Step} {c : Val} (h : child k cs s = some c) :
    c ∈ cs := by
  unfold child at h
  grind [List.mem_of_getElem?]

theorem resolve_ids : ∀ (p : List Step) (v : Val) {l : Nat} {k : Kind} {cs : List Val},
    resolve v p = some (l, k, cs) → ∀ i ∈ (Val.node l k cs).ids, i ∈ v.ids
  | [], .sc _, _, _, _, h | _ :: _, .sc _, _, _, _, h => by cases h
  | [], .node _ _ _, _, _, _, h => by cases h; exact fun _ hi => hi
  | s :: ss, .node j k0 cs0, _, _, _, h => by
    intro i hi
    simp only [resolve] at h
    split at h
    · rename_i c hc
      exact List.mem_cons_of_mem j (mem_idsL.2 ⟨c, child_mem hc, resolve_ids ss c h i hi⟩)
    · cases h

theorem writeAt_mem {k : Kind} {cs : List Val} {last : Step} {v : Val} {k' : Kind} {cs' : List Val}
    (h : writeAt k cs last v = some (k', cs')) : ∀ c ∈ cs', c ∈ cs ∨ c = v := by
  unfold writeAt at h
  grind [List.mem_or_eq_of_mem_set]

theorem writeAt_ids {k : Kind} {cs : List Val} {last : Step} {v : Val} {k' : Kind} {cs' : List Val}
    (h : writeAt k cs last v = some (k', cs')) : ∀ i ∈ idsL cs', i ∈ idsL cs ∨ i ∈ v.ids := by
  intro i hi
  obtain ⟨c, hc, hic⟩ := mem_idsL.1 hi
  rcases writeAt_mem h c hc with h | rfl
  · exact .inl (mem_idsL.2 ⟨c, h, hic⟩)
  · exact .inr hic

theorem lookup_mem {β : Type} {l : List (String × β)} {k : String} {b : β} (h : l.lookup k = some b) :
    (k, b) ∈ l := by
  obtain ⟨_, _, rfl, _⟩ := List.lookup_eq_some_iff.1 h
  simp

theorem lookup_ids {fs : List (String × Val)} {k : String} {v : Val} (h : fs.lookup k = some v) :
    ∀ i ∈ v.ids, i ∈ idsF fs :=
  fun _ hi => mem_idsF.2 ⟨(k, v), lookup_mem h, hi⟩

theorem upsert_ids : ∀ {fs : List (String × Val)} {k : String} {v : Val},
    ∀ i ∈ idsF (upsert fs k v), i ∈ idsF fs ∨ i ∈ v.ids
  | [], k, v => by simp [upsert, idsF]
  | (k', v') :: rest, k, v => by
    intro i hi
    simp only [upsert] at hi
    split at hi <;> simp only [idsF, List.mem_append] at hi ⊢
    · exact hi.symm.imp_left .inr
    · rcases hi with hi | hi
      · exact .inl (.inl hi)
      · exact (upsert_ids i hi).imp_left .inr

theorem substF_of_not_mem (l : Nat) (k' : Kind) (cs' : List Val) :
    ∀ fs : List (String × Val), l ∉ idsF fs → substF l k' cs' fs = fs
  | [], _ => by simp [substF]
  | (n, v) :: rest, h => by
    simp only [idsF, List.mem_append, not_or] at h
    simp [substF, subst_of_not_mem l k' cs' v h.1, substF_of_not_mem l k' cs' rest h.2]

theorem ids_substF (l : Nat) (k' : Kind) (cs' : List Val) :
    ∀ fs : List (String × Val), ∀ i ∈ idsF (substF l k' cs' fs), i ∈ idsF fs ∨ i ∈ idsL cs'
  | [] => by simp [substF, idsF]
  | (n, v) :: rest => by
    intro i hi
    simp only [substF, idsF, List.mem_append] at hi ⊢
    rcases hi with hi | hi
    · exact (ids_subst l k' cs' v i hi).imp_left .inl
    · exact (ids_substF l k' cs' rest i hi).imp_left .inr

theorem Group.subst_of_not_mem (l : Nat) (k' : Kind) (cs' : List Val) (g : Group) (h : l ∉ g.ids) :
    g.subst l k' cs' = g := by
  cases g with
  | mk c fs => simp [Group.subst, substF_of_not_mem l k' cs' fs h]

theorem loadFields_range : ∀ (file : File) (fs : List (String × Val)) (n : Nat),
    n ≤ (loadFields fs n file).2 ∧
    ∀ i ∈ idsF (loadFields fs n file).1, i ∈ idsF fs ∨ (n ≤ i ∧ i < (loadFields fs n file).2)
  | [], fs, n => ⟨Nat.le_refl _, fun i hi => .inl hi⟩
  | (k, j) :: rest, fs, n => by
    have h1 := toVal_alloc n j
    have h2 := loadFields_range rest (upsert fs k (j.toVal n).1) (j.toVal n).2
    have := h1.1
    simp only [loadFields]
    refine ⟨by omega, fun i hi => ?_⟩
    rcases h2.2 i hi with h | h
    · exact (upsert_ids i h).imp_right fun h' => by have := h1.2 i h'; omega
    · exact .inr ⟨by omega, h.2⟩

theorem idsL_of_all {q : Val → Bool} (hq : ∀ i k cs, q (.node i k cs) = false) :
    ∀ {cs : List Val}, cs.all q = true → idsL cs = []
  | [], _ => rfl
  | .sc _ :: cs, h => by
    simp only [List.all_cons, Bool.and_eq_true] at h
    exact idsL_of_all hq (cs := cs) h.2
  | .node i k cs' :: cs, h => by simp only [List.all_cons, hq, Bool.false_and, Bool.false_eq_true] at h

theorem toArray_alloc {n : Nat} {v w : Val} {n2 : Nat} (h : toArray n v = some (w, n2)) :
    Alloc n n2 w.ids := by
  unfold toArray at h
  split at h
  · split at h
    · cases h
    · simp only [Option.ite_none_right_eq_some, Bool.or_eq_true, Option.some.injEq, Prod.mk.injEq] at h
      obtain ⟨hk, rfl, rfl⟩ := h
      have : idsL _ = [] := hk.elim (idsL_of_all fun _ _ _ => rfl) (idsL_of_all fun _ _ _ => rfl)
      simp only [Val.ids, this]
      exact (Alloc.nil _).cons
  · cases h

/-- a location of the stored value is new, or one that a store kind too shallow for `v`
(`deepEnough s v = false`) goes on sharing with `v` -/
theorem storeVal_ids {s : StoreKind} {n : Nat} {v w : Val} {n2 : Nat}
    (h : storeVal s n v = some (w, n2)) :
    n ≤ n2 ∧ ∀ i ∈ w.ids, (n ≤ i ∧ i < n2) ∨ (i ∈ v.ids ∧ deepEnough s v = false) := by
  have fresh : ∀ {w : Val} {n2 : Nat}, Alloc n n2 w.ids →
      n ≤ n2 ∧ ∀ i ∈ w.ids, (n ≤ i ∧ i < n2) ∨ (i ∈ v.ids ∧ deepEnough s v = false) :=
    fun ha => ⟨ha.1, fun i hi => .inl (ha.2 i hi)⟩
  have shared : ∀ {i : Nat} {l : List Nat}, i ∈ l → l.isEmpty = false :=
    fun hi => List.isEmpty_eq_false_iff.2 (List.ne_nil_of_mem hi)
  have relab : ∀ {u : Val}, some (u.relabel n) = some (w, n2) → Alloc n n2 w.ids := fun {u} h => by
    have hr := relabel_alloc n u
    rwa [Option.some.inj h] at hr
  cases s with
  | alias =>
    cases h
    exact ⟨Nat.le_refl _, fun i hi => .inr ⟨hi, shared hi⟩⟩
  | copy =>
    cases v with
    | sc x => cases h; exact fresh (Alloc.nil n)
    | node j k cs =>
      cases h
      refine ⟨Nat.le_succ n, fun i hi => ?_⟩
      rcases List.mem_cons.1 hi with rfl | hi
      · exact .inl ⟨Nat.le_refl _, Nat.lt_succ_self _⟩
      · exact .inr ⟨List.mem_cons_of_mem _ hi, shared hi⟩
  | npArray => exact fresh (toArray_alloc h)
  | deepcopy => exact fresh (relab h)
  | deepcopyDict =>
    simp only [storeVal] at h
    split at h
    · exact fresh (relab h)
    · cases h

/-- one field of a new object holds new locations only. `hG`: the parameter's default object is stored
deeply enough (what `Inv.dflt` keeps); `hA`: a variable of the caller goes to a store kind that is deep
enough for every value (what `Op.safe` grants, `safe_var`); a literal argument is new anyway -/
theorem field_alloc {σ : State} {n : Nat} {c : Class} {p : Param} {s : Src} {v w : Val} {n1 n2 : Nat}
    (h1 : srcVal σ n c p.name s = some (v, n1)) (h2 : storeVal p.store n1 v = some (w, n2))
    (hG : ∀ v, σ.lookup 0 (gkey c p.name) = some v → deepEnough p.store v = true)
    (hA : ∀ x, s = .var x → ∀ v, deepEnough p.store v = true) : Alloc n n2 w.ids := by
  have hw := storeVal_ids h2
  have deep : deepEnough p.store v = true → Alloc n1 n2 w.ids := fun hd =>
    ⟨hw.1, fun i hi => (hw.2 i hi).resolve_right fun h => by simp [hd] at h⟩
  cases s with
  | dflt =>
    simp only [srcVal, Option.map_eq_some_iff, Prod.mk.injEq] at h1
    obtain ⟨v0, hv0, rfl, rfl⟩ := h1
    exact deep (hG v0 hv0)
  | var x =>
    simp only [srcVal, Option.map_eq_some_iff, Prod.mk.injEq] at h1
    obtain ⟨v0, _, rfl, rfl⟩ := h1
    exact deep (hA x rfl v0)
  | lit v0 =>
    simp only [srcVal, Option.some.injEq] at h1
    have hv := h1 ▸ relabel_alloc n v0
    have := hv.1; have := hw.1
    refine ⟨by omega, fun i hi => ?_⟩
    rcases hw.2 i hi with h | h
    · omega
    · have := hv.2 i h.1; omega

theorem buildFields_cons (σ : State) (c : Class) (args : List (String × Src)) (p : Param)
    (ps : List Param) (n : Nat) :
    buildFields σ c args (p :: ps) n =
      (srcVal σ n c p.name ((args.lookup p.name).getD .dflt)).bind fun s =>
      (storeVal p.store s.2 s.1).bind fun w =>
      (buildFields σ c args ps w.2).map fun r => ((p.name, w.1) :: r.1, r.2) := by
  simp only [buildFields]
  cases srcVal σ n c p.name ((args.lookup p.name).getD .dflt) with
  | none => rfl
  | some s =>
    simp only [Option.bind_some]
    cases storeVal p.store s.2 s.1 with
    | none => rfl
    | some w => simp only [Option.bind_some]; cases buildFields σ c args ps w.2 <;> rfl

theorem buildFields_alloc (σ : State) (c : Class) (args : List (String × Src)) :
    ∀ (ps : List Param) (n : Nat) {fs : List (String × Val)} {n' : Nat},
    (∀ p ∈ ps, ∀ v, σ.lookup 0 (gkey c p.name) = some v → deepEnough p.store v = true) →
    (∀ p ∈ ps, ∀ x, (args.lookup p.name).getD .dflt = .var x → ∀ v, deepEnough p.store v = true) →
    buildFields σ c args ps n = some (fs, n') → Alloc n n' (idsF fs)
  | [], n, _, _, _, _, h => by cases h; exact Alloc.nil n
  | p :: ps, n, fs, n', hG, hA, h => by
    simp only [buildFields_cons, Option.bind_eq_some_iff, Option.map_eq_some_iff, Prod.exists,
      Prod.mk.injEq] at h
    obtain ⟨v, n1, hsrc, w, n2, hst, rest, n3, hrest, rfl, rfl⟩ := h
    exact (field_alloc hsrc hst (hG p List.mem_cons_self) (hA p List.mem_cons_self)).append
      (buildFields_alloc σ c args ps n2 (fun q hq => hG q (List.mem_cons_of_mem _ hq))
        (fun q hq => hA q (List.mem_cons_of_mem _ hq)) hrest)

/-! ## separation invariant, frame -/

/-- no two groups (default objects, caller, settings objects) share a location; every location in
use is below the allocation counter; every default object can be stored by its parameter's store
kind without creating an alias -/
structure Inv (t : Table) (σ : State) : Prop where
  pos : 0 < σ.groups.length
  below : ∀ (g : Nat) (grp : Group), σ.groups[g]? = some grp → ∀ i ∈ grp.ids, i < σ.next
  sep : ∀ (g h : Nat) (gg gh : Group), σ.groups[g]? = some gg → σ.groups[h]? = some gh → g ≠ h →
    ∀ i ∈ gg.ids, i ∉ gh.ids
  dflt : ∀ c p, p ∈ t c → ∀ v, σ.lookup 0 (gkey c p.name) = some v → deepEnough p.store v = true

/-- `σ'` differs from `σ` at most in group `tgt` (which may be new), whose locations are those it
had before or new ones -/
structure GroupsStep (σ σ' : State) (tgt : Nat) : Prop where
  next_le : σ.next ≤ σ'.next
  frame : ∀ (g : Nat) (grp : Group), σ.groups[g]? = some grp → g ≠ tgt → σ'.groups[g]? = some grp
  only : ∀ (g : Nat) (grp' : Group), σ'.groups[g]? = some grp' → g = tgt ∨ σ.groups[g]? = some grp'
  fresh : ∀ (grp' : Group), σ'.groups[tgt]? = some grp' → ∀ i ∈ grp'.ids,
    (σ.next ≤ i ∧ i < σ'.next) ∨ (∃ grp : Group, σ.groups[tgt]? = some grp ∧ i ∈ grp.ids)

theorem GroupsStep.of_frame {σ σ' : State} {tgt : Nat} (hn : σ.next ≤ σ'.next)
    (hf : ∀ g, g ≠ tgt → σ'.groups[g]? = σ.groups[g]?)
    (hfresh : ∀ grp', σ'.groups[tgt]? = some grp' → ∀ i ∈ grp'.ids,
      (σ.next ≤ i ∧ i < σ'.next) ∨ ∃ grp, σ.groups[tgt]? = some grp ∧ i ∈ grp.ids) :
    GroupsStep σ σ' tgt where
  next_le := hn
  frame := fun g _ h hne => (hf g hne).trans h
  only := fun g _ h => (Decidable.em (g = tgt)).imp_right fun hne => (hf g hne).symm.trans h
  fresh := hfresh

theorem GroupsStep.getElem?_of_ne {σ σ' : State} {tgt g : Nat} (hs : GroupsStep σ σ' tgt) (hne : g ≠ tgt) :
    σ'.groups[g]? = σ.groups[g]? := by
  cases h' : σ'.groups[g]? with
  | some grp' => exact ((hs.only g grp' h').resolve_left hne).symm
  | none =>
    cases h : σ.groups[g]? with
    | none => rfl
    | some grp => exact h' ▸ hs.frame g grp h hne

theorem GroupsStep.files {σ σ' : State} {tgt : Nat} (hn : σ'.next = σ.next) (hg : σ'.groups = σ.groups) :
    GroupsStep σ σ' tgt :=
  .of_frame (by omega) (fun _ _ => hg ▸ rfl) fun grp' h _ hi => .inr ⟨grp', hg ▸ h, hi⟩

theorem GroupsStep.refl (σ : State) (tgt : Nat) : GroupsStep σ σ tgt :=
  .files rfl rfl

theorem GroupsStep.trans {σ σ1 σ2 : State} {tgt : Nat} (h1 : GroupsStep σ σ1 tgt) (h2 : GroupsStep σ1 σ2 tgt) :
    GroupsStep σ σ2 tgt := by
  have a := h1.next_le
  have b := h2.next_le
  refine .of_frame (Nat.le_trans a b) (fun g hne => (h2.getElem?_of_ne hne).trans (h1.getElem?_of_ne hne))
    fun grp' h i hi => ?_
  rcases h2.fresh grp' h i hi with hf | ⟨grp1, hg1, hi1⟩
  · exact .inl ⟨by omega, hf.2⟩
  · exact (h1.fresh grp1 hg1 i hi1).imp_left fun hf => ⟨hf.1, by omega⟩

theorem GroupsStep.ids {σ σ' : State} {tgt g : Nat} {grp' : Group} {i : Nat} (hs : GroupsStep σ σ' tgt)
    (hg : σ'.groups[g]? = some grp') (hi : i ∈ grp'.ids) :
    (g = tgt ∧ σ.next ≤ i ∧ i < σ'.next) ∨ ∃ grp, σ.groups[g]? = some grp ∧ i ∈ grp.ids := by
  rcases hs.only g grp' hg with rfl | h
  · exact (hs.fresh grp' hg i hi).imp_left fun hf => ⟨rfl, hf⟩
  · exact .inr ⟨grp', h, hi⟩

theorem State.lookup_congr {σ σ' : State} {g : Nat} (h : σ'.groups[g]? = σ.groups[g]?) (k : String) :
    σ'.lookup g k = σ.lookup g k := by
  simp only [State.lookup, h]

theorem Inv.step {t : Table} {σ σ' : State} {tgt : Nat} (hI : Inv t σ) (hs : GroupsStep σ σ' tgt)
    (hg0 : σ'.groups[0]? = σ.groups[0]?) : Inv t σ' := by
  have hn := hs.next_le
  refine ⟨?_, ?_, ?_, ?_⟩
  · exact (List.getElem?_eq_some_iff.1 (hg0.trans (List.getElem?_eq_getElem hI.pos))).1
  · intro g grp hg i hi
    rcases hs.ids hg hi with ⟨-, hf⟩ | ⟨grp0, hgrp0, hi0⟩
    · exact hf.2
    · exact Nat.lt_of_lt_of_le (hI.below g grp0 hgrp0 i hi0) hn
  · intro g h gg gh hgg hgh hne i hi hi'
    -- a new location is above every old one, and two new ones are both in the target group
    rcases hs.ids hgg hi with ⟨rfl, hf⟩ | ⟨g1, hg1, hi1⟩ <;>
      rcases hs.ids hgh hi' with ⟨rfl, hf'⟩ | ⟨h1, hh1, hi1'⟩
    · exact hne rfl
    · have := hI.below h h1 hh1 i hi1'; omega
    · have := hI.below g g1 hg1 i hi1; omega
    · exact hI.sep g h g1 h1 hg1 hh1 hne i hi1 hi1'
  · intro c p hp v hv
    exact hI.dflt c p hp v (State.lookup_congr hg0 _ ▸ hv)

theorem setGroup_step {σ : State} {g : Nat} {grp : Group} {fs : List (String × Val)} {n : Nat}
    (hg : σ.groups[g]? = some grp) (hn : σ.next ≤ n)
    (hfs : ∀ i ∈ idsF fs, i ∈ grp.ids ∨ (σ.next ≤ i ∧ i < n)) :
    GroupsStep σ { σ with next := n, groups := σ.groups.set g { grp with fields := fs } } g :=
  .of_frame hn (fun _ hne => List.getElem?_set_ne (Ne.symm hne)) fun grp' hh i hi => by
    simp only [List.getElem?_set_self (List.getElem?_eq_some_iff.1 hg).1, Option.some.injEq] at hh
    subst hh
    exact (hfs i hi).symm.imp_right fun h => ⟨grp, hg, h⟩

theorem pushGroup_step {σ : State} {grp : Group} {n : Nat} (h : Alloc σ.next n grp.ids) :
    GroupsStep σ { σ with next := n, groups := σ.groups ++ [grp] } σ.groups.length := by
  refine .of_frame h.1 (fun g hne => ?_) fun grp' hg i hi => ?_
  · rcases Nat.lt_or_gt_of_ne hne with hlt | hgt
    · exact List.getElem?_append_left hlt
    · rw [List.getElem?_eq_none (Nat.le_of_lt hgt),
        List.getElem?_eq_none (by simp only [List.length_append, List.length_singleton]; omega)]
  · simp only [List.getElem?_concat_length, Option.some.injEq] at hg
    exact .inl (h.2 i (hg ▸ hi))

theorem setField_step {σ σ' : State} {g : Nat} {attr : String} {v : Val} {n : Nat}
    (hv : Alloc σ.next n v.ids) (h : setField σ g attr v n = some σ') : GroupsStep σ σ' g := by
  unfold setField at h
  split at h
  · rename_i grp hg
    cases h
    exact setGroup_step hg hv.1 fun i hi => (upsert_ids i hi).imp_right (hv.2 i)
  · cases h

theorem load_step {σ σ' : State} {g f : Nat} (h : load σ g f = some σ') : GroupsStep σ σ' g := by
  unfold load at h
  split at h
  · rename_i grp file hg hf
    cases h
    have hr := loadFields_range file grp.fields σ.next
    exact setGroup_step hg hr.1 hr.2
  · cases h

theorem mutate_step {t : Table} {σ σ' : State} {g : Nat} {attr : String} {path : List Step} {last : Step}
    {v : Val} (hI : Inv t σ) (h : mutate σ g attr path last v = some σ') : GroupsStep σ σ' g := by
  unfold mutate at h
  split at h
  · cases h
  rename_i root hroot
  split at h
  · cases h
  rename_i l k cs hres
  split at h
  · cases h
  rename_i k' cs' hw
  cases h
  simp only [State.lookup] at hroot
  split at hroot
  · rename_i grp hg
    have hrr := relabel_alloc σ.next v
    have hres' := resolve_ids path root hres
    -- the written object belongs to group `g` alone, so `subst` leaves the other groups as they are
    have hl : l ∈ grp.ids := lookup_ids hroot l (hres' l List.mem_cons_self)
    have other : ∀ h grp', σ.groups[h]? = some grp' → h ≠ g → grp'.subst l k' cs' = grp' :=
      fun h grp' hh hne => Group.subst_of_not_mem _ _ _ _ (hI.sep g h grp grp' hg hh (Ne.symm hne) l hl)
    refine .of_frame hrr.1 (fun h hne => ?_) fun grp' hh i hi => ?_
    · rw [List.getElem?_map]
      cases hh : σ.groups[h]? with
      | none => rfl
      | some grp' => exact congrArg some (other h grp' hh hne)
    · simp only [List.getElem?_map, hg, Option.map_some, Option.some.injEq] at hh
      subst hh
      rcases ids_substF l k' cs' grp.fields i hi with h | h
      · exact .inr ⟨grp, hg, h⟩
      · rcases writeAt_ids hw i h with h | h
        · exact .inr ⟨grp, hg, lookup_ids hroot i (hres' i (List.mem_cons_of_mem _ h))⟩
        · exact .inl (hrr.2 i h)
  · cases hroot

theorem save_spec {t : Table} {σ σ1 : State} {g : Nat} (h : save t σ g = some σ1) :
    ∃ f, attrDict t σ g = some f ∧ σ1 = { σ with files := σ.files ++ [f] } := by
  unfold save at h
  split at h
  · rename_i c fs hg
    split at h
    · split at h
      · rename_i f hf
        exact ⟨f, by simp only [attrDict, hg, hf], (Option.some.inj h).symm⟩
      · cases h
    · cases h
  · cases h

theorem construct_eq (t : Table) (σ : State) (c : Class) (args : List (String × Src)) :
    construct t σ c args =
      if args.all (fun a => (t c).any (fun p => p.name = a.1)) then
        (buildFields σ c args (t c) σ.next).map fun r =>
          { σ with next := r.2, groups := σ.groups ++ [⟨some c, r.1⟩] }
      else none := by
  simp only [construct]
  split
  · cases buildFields σ c args (t c) σ.next <;> rfl
  · rfl

theorem safe_var {t : Table} {c : Class} {args : List (String × Src)}
    (hsafe : (Op.construct c args).safe t = true) {p : Param} (hp : p ∈ t c) {x : String}
    (hx : (args.lookup p.name).getD .dflt = .var x) : ∀ v, deepEnough p.store v = true := by
  cases hl : args.lookup p.name with
  | none => simp [hl] at hx
  | some s =>
    simp only [hl, Option.getD_some] at hx
    have h := List.all_eq_true.1 hsafe _ (lookup_mem (hx ▸ hl))
    have h := List.all_eq_true.1 h p hp
    simp only [bne_self_eq_false, Bool.false_or] at h
    revert h
    cases p.store with
    | alias | copy => intro h; cases h
    | _ => intro _ _; rfl

theorem construct_step {t : Table} {σ σ' : State} {c : Class} {args : List (String × Src)}
    (hI : Inv t σ) (hsafe : (Op.construct c args).safe t = true) (h : construct t σ c args = some σ') :
    GroupsStep σ σ' σ.groups.length := by
  simp only [construct_eq, Option.ite_none_right_eq_some, Option.map_eq_some_iff, Prod.exists] at h
  obtain ⟨-, fs, n, hb, rfl⟩ := h
  exact pushGroup_step (buildFields_alloc σ c args (t c) σ.next (fun p hp => hI.dflt c p hp)
    (fun p hp x => safe_var hsafe hp) hb)

theorem dispatchLoad_eq (t : Table) (σ : State) (f : Nat) :
    dispatchLoad t σ f = σ.files[f]?.bind fun file => (dispatch file).bind fun c =>
      (construct t σ c []).bind fun σ1 => load σ1 σ.groups.length f := by
  unfold dispatchLoad
  cases σ.files[f]? with
  | none => rfl
  | some file =>
    simp only [Option.bind_some]
    cases dispatch file with
    | none => rfl
    | some c => simp only [Option.bind_some]; cases construct t σ c [] <;> rfl

theorem step_spec {t : Table} {σ σ' : State} {op : Op} (hI : Inv t σ) (hsafe : op.safe t = true)
    (h : step t σ op = some σ') :
    GroupsStep σ σ' (op.target σ) ∧ σ'.groups[0]? = σ.groups[0]? := by
  have of_ne : GroupsStep σ σ' (op.target σ) → op.target σ ≠ 0 →
      GroupsStep σ σ' (op.target σ) ∧ σ'.groups[0]? = σ.groups[0]? :=
    fun hs h0 => ⟨hs, hs.getElem?_of_ne (Ne.symm h0)⟩
  cases op with
  | construct c args => exact of_ne (construct_step hI hsafe h) (Nat.ne_of_gt hI.pos)
  | mutate g attr path last v => exact of_ne (mutate_step hI h) (bne_iff_ne.1 hsafe)
  | assign g attr v => exact of_ne (setField_step (relabel_alloc σ.next v) h) (bne_iff_ne.1 hsafe)
  | assignVar g attr x => cases hsafe
  | save g => obtain ⟨_, _, rfl⟩ := save_spec h; exact ⟨.files rfl rfl, rfl⟩
  | load g f => exact of_ne (load_step h) (bne_iff_ne.1 hsafe)
  | dispatchLoad f =>
    simp only [step, dispatchLoad_eq, Option.bind_eq_some_iff] at h
    obtain ⟨_, -, _, -, σ1, h1, h2⟩ := h
    exact of_ne ((construct_step hI rfl h1).trans (load_step h2)) (Nat.ne_of_gt hI.pos)

theorem stepD_spec {t : Table} {σ : State} {op : Op} (hI : Inv t σ) (hsafe : op.safe t = true) :
    GroupsStep σ (stepD t σ op) (op.target σ) ∧ (stepD t σ op).groups[0]? = σ.groups[0]? := by
  unfold stepD
  cases h : step t σ op with
  | none => exact ⟨.refl σ _, rfl⟩
  | some σ' => exact step_spec hI hsafe h

theorem stepD_inv {t : Table} {σ : State} {op : Op} (hI : Inv t σ) (hsafe : op.safe t = true) :
    Inv t (stepD t σ op) :=
  hI.step (stepD_spec hI hsafe).1 (stepD_spec hI hsafe).2

theorem run_spec {t : Table} : ∀ (ops : List Op) {σ : State}, Inv t σ → (∀ op ∈ ops, op.safe t = true) →
    Inv t (run t σ ops) ∧ (run t σ ops).groups[0]? = σ.groups[0]?
  | [], _, hI, _ => ⟨hI, rfl⟩
  | op :: ops, _, hI, hs =>
    have hop := hs op List.mem_cons_self
    have ih := run_spec ops (stepD_inv hI hop) fun o ho => hs o (List.mem_cons_of_mem _ ho)
    ⟨ih.1, ih.2.trans (stepD_spec hI hop).2⟩

theorem run_inv {t : Table} : ∀ (ops : List Op) {σ : State}, Inv t σ → (∀ op ∈ ops, op.safe t = true) →
    Inv t (run t σ ops) :=
  fun ops _ hI hs => (run_spec ops hI hs).1

theorem run_append (t : Table) (σ : State) (a b : List Op) : run t σ (a ++ b) = run t (run t σ a) b := by
  simp [run, List.foldl_append]

theorem mem_all (c : Class) : c ∈ Class.all := by cases c <;> decide

theorem deepEnough_of_kind {s : StoreKind} {k : DKind} {v : Val} (hk : kindOK s k = true)
    (hv : shapeOK k v = true) : deepEnough s v = true := by
  cases v with
  | sc x => cases s <;> rfl
  | node j kk cs =>
    cases s with
    | npArray | deepcopy | deepcopyDict => rfl
    | alias => cases k with | imm => cases hv | _ => cases hk
    | copy =>
      -- `copy` keeps the children: below a list or array default there are only scalars
      have hcs : cs.all Val.isSc = true := by
        cases k with
        | imm => cases hv
        | dict => cases hk
        | list => cases kk with | list => exact hv | _ => cases hv
        | ndarray => cases kk with | arr => exact hv | _ => cases hv
      exact List.isEmpty_iff.2 (idsL_of_all (fun _ _ _ => rfl) hcs)

theorem init_inv {t : Table} {d : List (String × Val)} {n : Nat} (ht : tableOK t = true)
    (hc : conforms t d = true) (hn : ∀ i ∈ idsF d, i < n) : Inv t (initState d n) := by
  have hb : ∀ g grp, (initState d n).groups[g]? = some grp → ∀ i ∈ grp.ids, g = 0 ∧ i < n := by
    intro g grp hg i hi
    match g with
    | 0 => cases hg; exact ⟨rfl, hn i hi⟩
    | 1 => cases hg; cases hi
    | g + 2 => cases hg
  refine ⟨Nat.zero_lt_two, fun g grp hg i hi => (hb g grp hg i hi).2, ?_, ?_⟩
  · intro g h gg gh hgg hgh hne i hi hi'
    exact hne ((hb g gg hgg i hi).1.trans (hb h gh hgh i hi').1.symm)
  · intro c p hp v hv
    have h1 := List.all_eq_true.1 (List.all_eq_true.1 ht c (mem_all c)) p hp
    have h2 := List.all_eq_true.1 (List.all_eq_true.1 hc c (mem_all c)) p hp
    rw [show d.lookup (gkey c p.name) = some v from hv] at h2
    exact deepEnough_of_kind h1 h2

/-! ## save, load, dispatch -/

theorem lookup_upsert : ∀ (fs : List (String × Val)) (k k2 : String) (v : Val),
    (upsert fs k v).lookup k2 = if k2 = k then some v else fs.lookup k2
  | [], k, k2, v => by
    simp only [upsert, List.lookup_cons, List.lookup_nil]
    cases h : k2 == k
    · rw [if_neg (ne_of_beq_false h)]
    · rw [if_pos (eq_of_beq h)]
  | (k', v') :: rest, k, k2, v => by
    simp only [upsert]
    split <;> simp only [List.lookup_cons, lookup_upsert rest] <;> grind

theorem lookup_loadFields_not_mem : ∀ (file : File) (fs : List (String × Val)) (n : Nat) (k : String),
    k ∉ file.map Prod.fst → (loadFields fs n file).1.lookup k = fs.lookup k
  | [], fs, n, k, _ => by simp [loadFields]
  | (k', j) :: rest, fs, n, k, h => by
    simp only [List.map_cons, List.mem_cons, not_or] at h
    simp only [loadFields]
    rw [lookup_loadFields_not_mem rest _ _ k h.2, lookup_upsert, if_neg h.1]

theorem loadFields_lookup : ∀ (file : File) (fs : List (String × Val)) (n : Nat),
    (file.map Prod.fst).Nodup → ∀ kj ∈ file,
    ((loadFields fs n file).1.lookup kj.1).map Val.canon = some kj.2
  | (k, j) :: rest, fs, n, hnd, kj, hkj => by
    rw [List.map_cons, List.nodup_cons] at hnd
    rcases List.mem_cons.1 hkj with rfl | hkj
    · simp only [loadFields, lookup_loadFields_not_mem rest _ _ _ hnd.1, lookup_upsert, if_pos,
        Option.map_some, toVal_canon]
    · exact loadFields_lookup rest _ _ hnd.2 kj hkj

theorem attrsCanon_cons (fs : List (String × Val)) (p : Param) (ps : List Param) :
    attrsCanon fs (p :: ps) =
      ((fs.lookup p.name).map Val.canon).bind fun j => (attrsCanon fs ps).map ((p.name, j) :: ·) := by
  simp only [attrsCanon]
  cases fs.lookup p.name <;> cases attrsCanon fs ps <;> rfl

theorem attrsCanon_keys : ∀ (ps : List Param) {fs : List (String × Val)} {f : File},
    attrsCanon fs ps = some f → f.map Prod.fst = ps.map (·.name)
  | [], _, _, h => by cases h; rfl
  | p :: ps, fs, f, h => by
    simp only [attrsCanon_cons, Option.bind_eq_some_iff, Option.map_eq_some_iff] at h
    obtain ⟨_, _, rest, hrest, rfl⟩ := h
    simp only [List.map_cons, attrsCanon_keys ps hrest]

/-- loading the file written from fields `fs` into any fields `fs'` shows the content of `fs` -/
theorem attrsCanon_loadFields : ∀ (ps : List Param), (ps.map (·.name)).Nodup →
    ∀ {fs fs' : List (String × Val)} {f : File} {n : Nat}, attrsCanon fs ps = some f →
    attrsCanon (loadFields fs' n f).1 ps = some f
  | [], _, _, _, _, _, h => by cases h; rfl
  | p :: ps, hnd, fs, fs', f, n, h => by
    have hk : (f.map Prod.fst).Nodup := attrsCanon_keys _ h ▸ hnd
    simp only [attrsCanon_cons, Option.bind_eq_some_iff, Option.map_eq_some_iff] at h
    obtain ⟨_, ⟨v, -, rfl⟩, rest, hrest, rfl⟩ := h
    -- the first entry is found in what was loaded; the rest is loaded into fields that hold it already
    rw [attrsCanon_cons, loadFields_lookup _ fs' n hk (p.name, v.canon) List.mem_cons_self]
    simp only [loadFields, attrsCanon_loadFields ps (List.nodup_cons.1 hnd).2 hrest, Option.bind_some,
      Option.map_some]

/-- the content of the fields, locations erased -/
def canonF (fs : List (String × Val)) : List (String × Json) := fs.map fun kv => (kv.1, kv.2.canon)

theorem lookup_canonF : ∀ (fs : List (String × Val)) (k : String),
    (canonF fs).lookup k = (fs.lookup k).map Val.canon
  | [], k => by simp [canonF]
  | (k', v) :: rest, k => by
    have ih := lookup_canonF rest k
    simp only [canonF, List.map_cons, List.lookup] at ih ⊢
    split <;> simp_all

theorem attrsCanon_congr {fs fs' : List (String × Val)} : ∀ ps : List Param,
    (∀ p ∈ ps, (fs.lookup p.name).map Val.canon = (fs'.lookup p.name).map Val.canon) →
    attrsCanon fs ps = attrsCanon fs' ps
  | [], _ => rfl
  | p :: ps, h => by
    simp only [attrsCanon_cons, h p List.mem_cons_self,
      attrsCanon_congr ps fun q hq => h q (List.mem_cons_of_mem _ hq)]

theorem attrsCanon_of_canonF {fs fs' : List (String × Val)} (h : canonF fs = canonF fs')
    (ps : List Param) : attrsCanon fs ps = attrsCanon fs' ps :=
  attrsCanon_congr ps fun p _ => by rw [← lookup_canonF, ← lookup_canonF, h]

/-- for comparing two runs of a chain of `Option.bind`s that do not produce equal values: the stages
agree up to `f` going in, the results agree up to `k` coming out -/
theorem Option.bind_congr_map {α β γ δ : Type} {f : α → γ} {k : β → δ} {o₁ o₂ : Option α}
    {g₁ g₂ : α → Option β} (ho : o₁.map f = o₂.map f)
    (hg : ∀ a b, f a = f b → (g₁ a).map k = (g₂ b).map k) :
    (o₁.bind g₁).map k = (o₂.bind g₂).map k :=
  match o₁, o₂, ho with
  | none, none, _ => rfl
  | some a, some b, ho => hg a b (Option.some.inj ho)

theorem node_canon_id (i j : Nat) (k : Kind) (cs : List Val) :
    (Val.node i k cs).canon = (Val.node j k cs).canon := by cases k <;> rfl

theorem storeVal_canon_indep (s : StoreKind) (n m : Nat) (v : Val) :
    (storeVal s n v).map (fun r => r.1.canon) = (storeVal s m v).map (fun r => r.1.canon) := by
  cases s with
  | alias => rfl
  | copy =>
    cases v with
    | sc x => rfl
    | node j k cs => exact congrArg some (node_canon_id n m k cs)
  | npArray =>
    simp only [storeVal]
    unfold toArray
    split
    · split
      · rfl
      · split <;> rfl
    · rfl
  | deepcopy => simp [storeVal, relabel_canon]
  | deepcopyDict =>
    simp only [storeVal]
    split <;> simp [relabel_canon]

/-- Two runs of `Cls()` from states with the same group 0 read the same default objects and differ only
in where they allocate the copies: stage by stage (`Option.bind_congr_map`) the fields they build have
the same content, and that is all `attr_dict` sees (`attrsCanon_of_canonF`). -/
theorem buildFields_default_canon (σ σ' : State) (c : Class)
    (h : ∀ k, σ.lookup 0 k = σ'.lookup 0 k) : ∀ (ps : List Param) (n m : Nat),
    (buildFields σ c [] ps n).map (fun r => canonF r.1) =
      (buildFields σ' c [] ps m).map (fun r => canonF r.1)
  | [], n, m => rfl
  | p :: ps, n, m => by
    simp only [buildFields_cons, List.lookup, Option.getD_none, srcVal, h]
    refine Option.bind_congr_map (f := fun s => s.1) (by simp [Option.map_map, Function.comp_def]) ?_
    rintro ⟨v, _⟩ ⟨_, _⟩ rfl
    refine Option.bind_congr_map (f := fun w => w.1.canon) (storeVal_canon_indep ..) ?_
    intro w w' hw
    simp only [Option.map_map, Function.comp_def, canonF, List.map_cons, hw]
    simpa only [Option.map_map, Function.comp_def, canonF] using
      congrArg (Option.map ((p.name, w'.1.canon) :: ·)) (buildFields_default_canon σ σ' c h ps w.2 w'.2)

theorem construct_default_attrDict (t : Table) (σ σ' : State) (c : Class)
    (h0 : σ.groups[0]? = σ'.groups[0]?) :
    attrDict t (stepD t σ (.construct c [])) σ.groups.length =
      attrDict t (stepD t σ' (.construct c [])) σ'.groups.length := by
  have hb := buildFields_default_canon σ σ' c (State.lookup_congr h0) (t c) σ.next σ'.next
  simp only [stepD, step, construct_eq, List.all_nil, if_true]
  revert hb
  cases buildFields σ c [] (t c) σ.next <;> cases buildFields σ' c [] (t c) σ'.next <;> intro hb
  · simp [attrDict]
  · cases hb
  · cases hb
  · simpa [attrDict] using attrsCanon_of_canonF (Option.some.inj hb) (t c)

theorem dispatchWith_cons (k : String) (rules) (tbl : DispatchTable) (f : File) :
    dispatchWith ((k, rules) :: tbl) f =
      match f.lookup k with
      | some v => (dispatchRules f v rules).bind Class.ofName
      | none => dispatchWith tbl f := by
  cases h : f.lookup k <;> simp [dispatchWith, List.find?, h]

theorem ofName_name : ∀ c ∈ Class.all, Class.ofName c.name = some c := by decide +kernel

/-- the class the reader picks among the three traditional ones, by the stored
`method_to_combine_horizontals` -/
def tradClass (j : Json) : Class :=
  if j.isStr "rotdpp" then .rotDpp
  else if j.isStr "single_azimuth" || j.isStr "directional_energy" then .singleAz else .trad

/-- `dispatch` on the table of the current tree, written out: the `if`/`elif` chain of
`read_settings_object_from_file` -/
theorem dispatch_eq (f : File) : dispatch f =
    match f.lookup "preprocessing_method" with
    | some v => if v.isStr "psd" then some .psdPre else if v.isStr "hvsr" then some .hvsrPre else none
    | none =>
      match f.lookup "processing_method" with
      | none => none
      | some v =>
        if v.isStr "psd" then some .psdProc else if v.isStr "azimuthal" then some .azimuthal
        else if v.isStr "diffuse_field" then some .diffuse
        else if v.isStr "traditional" then (f.lookup "method_to_combine_horizontals").map tradClass
        else none := by
  -- stated with `bind` so that `exact hn c` meets each leaf `(some "<name>").bind Class.ofName`
  -- argument by argument; unifying under an evaluated `bind` would evaluate `Class.ofName`.
  -- The tests are taken apart by `cases` on their Boolean value: `split` is much slower on this chain.
  have hn : ∀ c, (some c.name).bind Class.ofName = some c := fun c => ofName_name c (mem_all c)
  simp only [dispatch, dispatchTable, dispatchWith_cons, dispatchRules, String.reduceEq, ↓reduceIte]
  cases f.lookup "preprocessing_method" with
  | some v =>
    dsimp only
    cases v.isStr "psd"
    case true => exact hn .psdPre
    cases v.isStr "hvsr"
    case true => exact hn .hvsrPre
    rfl
  | none =>
    cases f.lookup "processing_method" with
    | none => rfl
    | some v =>
      dsimp only
      cases v.isStr "psd"
      case true => exact hn .psdProc
      cases v.isStr "azimuthal"
      case true => exact hn .azimuthal
      cases v.isStr "diffuse_field"
      case true => exact hn .diffuse
      cases v.isStr "traditional"
      case false => rfl
      cases f.lookup "method_to_combine_horizontals" with
      | none => rfl
      | some j =>
        simp only [List.find?, tradClass, Option.map_some]
        cases j.isStr "rotdpp"
        case true => exact hn .rotDpp
        cases j.isStr "single_azimuth"
        case true => exact hn .singleAz
        cases j.isStr "directional_energy"
        case true => exact hn .singleAz
        exact hn .trad

end HV.Settings
