import HvsrVerif.Proofs.RealInst
import HvsrVerif.Model.Process
import Mathlib.Algebra.Order.Floor.Semiring
/-! numpy 'linear' percentile: insertion sort is sorted, linear interpolation through sorted nodes is monotone -/
namespace HV

/-- linear interpolation through the nodes `a 0, a 1, …` at real index `h ≥ 0` -/
noncomputable def interp (a : ℕ → ℝ) (h : ℝ) : ℝ :=
  a ⌊h⌋₊ + (a (⌊h⌋₊ + 1) - a ⌊h⌋₊) * (h - ⌊h⌋₊)

theorem interp_between (a : ℕ → ℝ) (ha : Monotone a) (h : ℝ) (h0 : 0 ≤ h) :
    a ⌊h⌋₊ ≤ interp a h ∧ interp a h ≤ a (⌊h⌋₊ + 1) := by
  have hd : 0 ≤ a (⌊h⌋₊ + 1) - a ⌊h⌋₊ := sub_nonneg.mpr (ha (Nat.le_succ _))
  have hf0 : 0 ≤ h - ⌊h⌋₊ := sub_nonneg.mpr (Nat.floor_le h0)
  have hf1 : h - ⌊h⌋₊ ≤ 1 := sub_le_iff_le_add'.mpr (Nat.lt_floor_add_one h).le
  refine ⟨le_add_of_nonneg_right (mul_nonneg hd hf0), ?_⟩
  calc interp a h ≤ a ⌊h⌋₊ + (a (⌊h⌋₊ + 1) - a ⌊h⌋₊) * 1 := add_le_add le_rfl (mul_le_mul_of_nonneg_left hf1 hd)
    _ = a (⌊h⌋₊ + 1) := by rw [mul_one, add_sub_cancel]

theorem interp_mono (a : ℕ → ℝ) (ha : Monotone a) {h₁ h₂ : ℝ} (h0 : 0 ≤ h₁) (h12 : h₁ ≤ h₂) :
    interp a h₁ ≤ interp a h₂ := by
  rcases (Nat.floor_le_floor h12).lt_or_eq with hlt | heq
  · exact ((interp_between a ha h₁ h0).2.trans (ha hlt)).trans (interp_between a ha h₂ (h0.trans h12)).1
  · unfold interp
    rw [heq]
    exact add_le_add le_rfl (mul_le_mul_of_nonneg_left (sub_le_sub_right h12 _) (sub_nonneg.mpr (ha (Nat.le_succ _))))

theorem insertSorted_perm (x : ℝ) (l : List ℝ) : (insertSorted x l).Perm (x :: l) := by
  induction l with
  | nil => exact .refl _
  | cons a t ih =>
    unfold insertSorted
    split
    · exact .refl _
    · exact (ih.cons a).trans (.swap x a t)

theorem sortA_perm (l : List ℝ) : (sortA l).Perm l := by
  induction l with
  | nil => exact .refl _
  | cons a t ih => exact (insertSorted_perm a _).trans (ih.cons a)

theorem insertSorted_sorted (x : ℝ) (l : List ℝ) (h : l.Pairwise (· ≤ ·)) : (insertSorted x l).Pairwise (· ≤ ·) := by
  induction l with
  | nil => exact List.pairwise_singleton _ _
  | cons a t ih =>
    obtain ⟨ha, ht⟩ := List.pairwise_cons.mp h
    unfold insertSorted
    split
    · rename_i hxa
      exact List.pairwise_cons.mpr ⟨fun y hy => hxa.le.trans ((List.mem_cons.mp hy).elim (·.ge) (ha y)), h⟩
    · rename_i hxa
      refine List.pairwise_cons.mpr ⟨fun y hy => ?_, ih ht⟩
      rcases List.mem_cons.mp ((insertSorted_perm x t).mem_iff.mp hy) with rfl | hy
      · exact not_lt.mp hxa
      · exact ha y hy

theorem sortA_sorted (l : List ℝ) : (sortA l).Pairwise (· ≤ ·) := by
  induction l with
  | nil => exact List.Pairwise.nil
  | cons a t ih => exact insertSorted_sorted a _ ih

/-- nodes of the interpolation: the sorted values, clamped at the last one -/
noncomputable def nodes (s : List ℝ) (i : ℕ) : ℝ := s.getD (min i (s.length - 1)) 0

theorem nodes_eq_getElem (s : List ℝ) (hne : s ≠ []) (i : ℕ) :
    ∃ h : min i (s.length - 1) < s.length, nodes s i = s[min i (s.length - 1)] :=
  have h := (min_le_right _ _).trans_lt (Nat.sub_lt (List.length_pos_iff.mpr hne) Nat.one_pos)
  ⟨h, by rw [nodes, List.getD_eq_getElem?_getD, List.getElem?_eq_getElem h]; rfl⟩

theorem nodes_mono (s : List ℝ) (hs : s.Pairwise (· ≤ ·)) : Monotone (nodes s) := by
  intro i j hij
  by_cases hne : s = []
  · subst hne; rfl
  · obtain ⟨hi, ei⟩ := nodes_eq_getElem s hne i
    obtain ⟨hj, ej⟩ := nodes_eq_getElem s hne j
    rw [ei, ej]
    exact hs.rel_get_of_le (a := ⟨_, hi⟩) (b := ⟨_, hj⟩) (min_le_min_right _ hij)

theorem nodes_mem (s : List ℝ) (hne : s ≠ []) (i : ℕ) : nodes s i ∈ s := by
  obtain ⟨h, e⟩ := nodes_eq_getElem s hne i
  exact e ▸ List.getElem_mem h

theorem percentile_eq_interp (vals : List ℝ) (q : ℝ) (hq : q ≤ 100) :
    percentile vals q = interp (nodes (sortA vals)) (((vals.length - 1 : ℕ) : ℝ) * q / 100) := by
  have hfloor : ⌊((vals.length - 1 : ℕ) : ℝ) * q / 100⌋₊ ≤ vals.length - 1 :=
    Nat.floor_le_of_le (by rw [div_le_iff₀ (by norm_num)]; exact mul_le_mul_of_nonneg_left hq (Nat.cast_nonneg _))
  simp only [percentile, interp, nodes, (sortA_perm vals).length_eq, ofNat_real, Nat.cast_ofNat, floor_real, Nat.cast_zero,
    min_eq_left hfloor]
  -- what is left differs only in `⌊h⌋.toNat` (the model, through `Int.floor`) against `⌊h⌋₊`: `Nat.floor` over `ℝ` is defined so
  rfl

end HV
