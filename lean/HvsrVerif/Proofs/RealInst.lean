import HvsrVerif.Scalar
import Mathlib.Analysis.SpecialFunctions.Log.Basic
import Mathlib.Analysis.SpecialFunctions.Trigonometric.Basic
import Mathlib.Analysis.SpecialFunctions.Sqrt
import Mathlib.Algebra.Order.Floor.Ring
/-!
# The `ℝ` instance of the scalar classes and the simp lemmas that expose it
-/
noncomputable section

instance : Arith ℝ where
  ofNat := fun n => (n : ℝ)
  ofSci := fun m s e => if s then (m : ℝ) / 10 ^ e else (m : ℝ) * 10 ^ e
  floor := fun x => ⌊x⌋
  decLt := fun _ _ => Classical.propDecidable _
  decLe := fun _ _ => Classical.propDecidable _

instance : Transc ℝ where
  sqrt := Real.sqrt
  log := Real.log
  exp := Real.exp
  sin := Real.sin
  cos := Real.cos
  pi := Real.pi

end

namespace HV

/- A trap when working with the models over `ℝ`. An `if a < b …` of a model carries the instance `Arith.decLt a b`
   (above: `Classical.propDecidable`), the same test written in a theorem or coming from a Mathlib lemma carries
   `Real.decidableLT`. The two are equal only after unfolding, so a goal can show two textually identical `if`s that
   `rw`/`simp` will not match; `rfl`, `congr` or `split_ifs` on both sides close it. For the same reason the lemmas
   below are deliberately *not* `rfl`-lemmas (`id rfl`): `simp` then rewrites with congruence and keeps the
   `Decidable` instances of the rewritten propositions in step. -/

@[simp] theorem ofNat_real (n : Nat) : (Arith.ofNat n : ℝ) = (n : ℝ) := id rfl
@[simp] theorem ofSci_real_neg (m e : Nat) : (Arith.ofSci m true e : ℝ) = (m : ℝ) / 10 ^ e := id rfl
@[simp] theorem ofSci_real_pos (m e : Nat) : (Arith.ofSci m false e : ℝ) = (m : ℝ) * 10 ^ e := id rfl
@[simp] theorem lit_real (p : Nat × Nat) : (lit p : ℝ) = (p.1 : ℝ) / 10 ^ p.2 := id rfl
@[simp] theorem floor_real (x : ℝ) : Arith.floor x = ⌊x⌋ := id rfl
@[simp] theorem sqrt_real (x : ℝ) : Transc.sqrt x = Real.sqrt x := id rfl
@[simp] theorem log_real (x : ℝ) : Transc.log x = Real.log x := id rfl
@[simp] theorem exp_real (x : ℝ) : Transc.exp x = Real.exp x := id rfl
@[simp] theorem sin_real (x : ℝ) : Transc.sin x = Real.sin x := id rfl
@[simp] theorem cos_real (x : ℝ) : Transc.cos x = Real.cos x := id rfl
@[simp] theorem pi_real : (Transc.pi : ℝ) = Real.pi := id rfl

theorem ofInt_real (i : ℤ) : (ofInt i : ℝ) = (i : ℝ) := by
  cases i <;> simp [ofInt, Int.negSucc_eq]

theorem absA_real (x : ℝ) : absA x = |x| := by
  unfold absA
  simp only [ofNat_real, Nat.cast_zero]
  split
  · rename_i h; exact (abs_of_neg h).symm
  · rename_i h; exact (abs_of_nonneg (not_lt.mp h)).symm

theorem maxA_real (a b : ℝ) : maxA a b = max a b := by
  unfold maxA
  split
  · rename_i h; exact (max_eq_right h.le).symm
  · rename_i h; exact (max_eq_left (not_lt.mp h)).symm

theorem minA_real (a b : ℝ) : minA a b = min a b := by
  unfold minA
  split
  · rename_i h; exact (min_eq_right h.le).symm
  · rename_i h; exact (min_eq_left (not_lt.mp h)).symm

theorem eqA_real (a b : ℝ) : eqA a b = true ↔ a = b := by
  unfold eqA
  simp only [Bool.and_eq_true, Bool.not_eq_eq_eq_not, Bool.not_true, decide_eq_false_iff_not, not_lt]
  constructor
  · rintro ⟨h1, h2⟩; exact le_antisymm h2 h1
  · rintro rfl; exact ⟨le_refl _, le_refl _⟩

theorem eqA_decide (a b : ℝ) : eqA a b = decide (a = b) :=
  Bool.eq_iff_iff.2 ((eqA_real a b).trans decide_eq_true_iff.symm)

theorem eqA_zero (a : ℝ) : eqA a (n# 0) = decide (a = 0) := by
  rw [eqA_decide, ofNat_real, Nat.cast_zero]

end HV
