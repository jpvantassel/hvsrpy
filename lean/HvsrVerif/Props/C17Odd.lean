import HvsrVerif.Props.C17Deriv
import Mathlib.Tactic.NormNum
/-!
# C17 (continued) — the PSD preprocessing transforms for an ODD FFT length `n = 2h + 1`

The headline theorems of `C17Inv`/`C17Deriv` are stated for the even lengths `n = 2h` (every length the code chooses by
itself is a power of two); a caller may however pass any `n ≥ len(x)`. For an odd length there is no Nyquist bin: `rfft`
returns the bins `0 … h`, and `irfft` sums the DC bin and twice the real part of every bin `1 … h` (`irfftAt`, branch
`n % 2 ≠ 0`).
* `flat_response_closed_form_odd`: removing a flat response `S` returns exactly `(x_j − (Σx)/n) / S` (the hypothesis
  `S ≠ 0` of the statement is not used, see `removeFlatResponse_eq`);
* `interpolantOdd_interpolates`: the band-limited interpolant `p(t) = (X₀ + 2 Σ_{1≤k≤h} Re(X_k e^{2πi f_k t})) / n`,
  `f_k = k/(n·dt)`, passes through the samples with NO correction term, `p(j·dt) = x_j`;
* `differentiate_is_derivative_odd`: sample `j` of `differentiate x n dt` is the derivative of `p` at `t = j·dt`
  (for odd `n`, `p` has no Nyquist term to leave out: it is the full trigonometric interpolant through all `n` samples).
All three are the case `n = 2h + 1` of the statements for a general length in `C17Inv`/`C17Deriv`.
-/
namespace HV.C17

/-- **Flat instrument response, odd FFT length.** Removing a flat response `S` returns the series with the mean (over
the padded length `n = 2h + 1`) removed, divided by the sensitivity. -/
theorem flat_response_closed_form_odd (x : List ℝ) (h : ℕ) (hlen : x.length ≤ 2 * h + 1) (S : ℝ) (hS : S ≠ 0) :
    removeFlatResponse x (2 * h + 1) S = flatResponseClosed x (2 * h + 1) S :=
  removeFlatResponse_eq x (2 * h + 1) hlen S

/-- the band-limited interpolant for an odd length `n = 2h + 1`: all bins `1 … h`, no Nyquist term -/
noncomputable def interpolantOdd (x : List ℝ) (h : ℕ) (dt : ℝ) (t : ℝ) : ℝ :=
  (dftRe x (2 * h + 1) 0 + ∑ k ∈ Finset.Ico 1 (h + 1),
    2 * (dftRe x (2 * h + 1) k * Real.cos (omega (2 * h + 1) dt k * t)
      - dftIm x (2 * h + 1) k * Real.sin (omega (2 * h + 1) dt k * t)))
    / ((2 * h + 1 : ℕ) : ℝ)

noncomputable def interpolantOddDeriv (x : List ℝ) (h : ℕ) (dt : ℝ) (t : ℝ) : ℝ :=
  (∑ k ∈ Finset.Ico 1 (h + 1),
    2 * (dftRe x (2 * h + 1) k * (-(Real.sin (omega (2 * h + 1) dt k * t) * omega (2 * h + 1) dt k))
      - dftIm x (2 * h + 1) k * (Real.cos (omega (2 * h + 1) dt k * t) * omega (2 * h + 1) dt k)))
    / ((2 * h + 1 : ℕ) : ℝ)

theorem interpolantOdd_eq (x : List ℝ) (h : ℕ) (dt : ℝ) : interpolantOdd x h dt = trigInterp x (2 * h + 1) dt := by
  unfold interpolantOdd trigInterp; rw [two_mul_add_two_div_two]

theorem interpolantOddDeriv_eq (x : List ℝ) (h : ℕ) (dt : ℝ) :
    interpolantOddDeriv x h dt = trigInterpDeriv x (2 * h + 1) dt := by
  unfold interpolantOddDeriv trigInterpDeriv; rw [two_mul_add_two_div_two]

theorem interpolantOdd_interpolates (x : List ℝ) (h : ℕ) (hlen : x.length ≤ 2 * h + 1) (dt : ℝ) (hdt : dt ≠ 0)
    (j : ℕ) (hj : j < 2 * h + 1) :
    interpolantOdd x h dt ((j : ℝ) * dt) = padR x j := by
  have := trigInterp_interpolates x (2 * h + 1) hlen dt hdt j hj
  rwa [if_neg (two_mul_succ_mod_two h), zero_div, add_zero, ← interpolantOdd_eq] at this

/-- **Differentiation returns the spectral derivative, odd FFT length**: sample `j` of the returned series is the
derivative, at `t = j·dt`, of the band-limited interpolant of the (zero-padded) input — which for an odd length is the
full trigonometric interpolant through all `n` samples (`interpolantOdd_interpolates`). -/
theorem differentiate_is_derivative_odd (x : List ℝ) (h : ℕ) (hlen : x.length ≤ 2 * h + 1) (dt : ℝ) (hdt : dt ≠ 0)
    (j : ℕ) (hj : j < x.length) :
    (differentiate x (2 * h + 1) dt)[j]? = some (interpolantOddDeriv x h dt ((j : ℝ) * dt)) ∧
    HasDerivAt (interpolantOdd x h dt) (interpolantOddDeriv x h dt ((j : ℝ) * dt)) ((j : ℝ) * dt) ∧
    interpolantOdd x h dt ((j : ℝ) * dt) = x[j] := by
  rw [interpolantOdd_eq, interpolantOddDeriv_eq]
  refine ⟨differentiate_getElem? x _ hlen dt hdt j hj, trigInterp_hasDerivAt x _ dt _, ?_⟩
  rw [← interpolantOdd_eq, interpolantOdd_interpolates x h hlen dt hdt j (hj.trans_le hlen), padR_of_lt hj]

/-! ## non-vacuity: the hypotheses are satisfiable on concrete data (`n = 3`, `n = 5 > len`, and the degenerate `n = 1`) -/

example : removeFlatResponse [(1 : ℝ), 2, 4] 3 2 = flatResponseClosed [(1 : ℝ), 2, 4] 3 2 :=
  flat_response_closed_form_odd [1, 2, 4] 1 (by decide) 2 two_ne_zero

example : removeFlatResponse [(1 : ℝ), 2, 4] 5 (-3) = flatResponseClosed [(1 : ℝ), 2, 4] 5 (-3) :=
  flat_response_closed_form_odd [1, 2, 4] 2 (by decide) (-3) (by norm_num)

example : removeFlatResponse [(7 : ℝ)] 1 2 = [0] := by
  rw [flat_response_closed_form_odd [7] 0 (by decide) 2 two_ne_zero]
  simp [flatResponseClosed, sumA_real, ofNat_real]

example : (differentiate [(1 : ℝ), 2, 4] 3 (1 / 100))[1]?
    = some (interpolantOddDeriv [1, 2, 4] 1 (1 / 100) (((1 : ℕ) : ℝ) * (1 / 100))) :=
  (differentiate_is_derivative_odd [1, 2, 4] 1 (by decide) (1 / 100) (by norm_num) 1 (by decide)).1

example : interpolantOdd [(1 : ℝ), 2, 4] 1 (1 / 100) (((2 : ℕ) : ℝ) * (1 / 100)) = 4 :=
  (differentiate_is_derivative_odd [1, 2, 4] 1 (by decide) (1 / 100) (by norm_num) 2 (by decide)).2.2

end HV.C17
