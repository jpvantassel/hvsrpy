import HvsrVerif.Props.C17Inv
import Mathlib.Analysis.SpecialFunctions.Trigonometric.Deriv
/-!
# C17 (continued) — PSD preprocessing by differentiation returns the spectral derivative

For an even FFT length `n = 2h ≥ len(x)`, let `p(t)` be the trigonometric polynomial built from the interior bins of the
zero-padded series' spectrum, `p(t) = (X₀ + 2 Σ_{0<k<h} Re(X_k e^{2πi f_k t})) / n`, `f_k = k/(n·dt)`.
* `interpolant_interpolates`: `p` (plus the Nyquist term) passes through the samples, `p(j·dt) + X_h cos(πj)/n = x_j`;
* `differentiate_is_derivative`: sample `j` of `differentiate x n dt` **is the derivative of `p` at `t = j·dt`** — the
  "analytically expected series (spectral derivative)". The Nyquist term `X_h cos(ω_h t)/n` is left out of `p` only to keep
  the formula short: its derivative `−ω_h X_h sin(πj)/n` vanishes at every sample, so the result is also the derivative of
  the full interpolant there (in the multiplied spectrum that bin is `iω_h X_h`, of which `irfft` reads the real part
  `−ω_h Im X_h = 0`).
Both are the case `n = 2h` of statements about `trigInterp x n dt`, the same polynomial for any length `n ≥ len(x)`
(`differentiate_getElem?`, `trigInterp_hasDerivAt`, `trigInterp_interpolates`); `Props/C17Odd.lean` takes `n = 2h + 1`.
-/
namespace HV.C17

/-- angular frequency of bin `k` -/
noncomputable def omega (n : ℕ) (dt : ℝ) (k : ℕ) : ℝ := 2 * Real.pi * ((k : ℝ) / ((n : ℝ) * dt))

/-- the band-limited interpolant without its Nyquist term -/
noncomputable def interpolant (x : List ℝ) (h : ℕ) (dt : ℝ) (t : ℝ) : ℝ :=
  (dftRe x (2 * h) 0 + ∑ k ∈ Finset.Ico 1 h,
    2 * (dftRe x (2 * h) k * Real.cos (omega (2 * h) dt k * t) - dftIm x (2 * h) k * Real.sin (omega (2 * h) dt k * t)))
    / ((2 * h : ℕ) : ℝ)

noncomputable def interpolantDeriv (x : List ℝ) (h : ℕ) (dt : ℝ) (t : ℝ) : ℝ :=
  (∑ k ∈ Finset.Ico 1 h,
    2 * (dftRe x (2 * h) k * (-(Real.sin (omega (2 * h) dt k * t) * omega (2 * h) dt k))
      - dftIm x (2 * h) k * (Real.cos (omega (2 * h) dt k * t) * omega (2 * h) dt k)))
    / ((2 * h : ℕ) : ℝ)

/-- the band-limited interpolant of the zero-padded series for any length `n`: the bins `0` and `1 ≤ k < (n+1)/2`,
i.e. without the Nyquist term of an even `n` -/
noncomputable def trigInterp (x : List ℝ) (n : ℕ) (dt t : ℝ) : ℝ :=
  (dftRe x n 0 + ∑ k ∈ Finset.Ico 1 ((n + 1) / 2),
    2 * (dftRe x n k * Real.cos (omega n dt k * t) - dftIm x n k * Real.sin (omega n dt k * t))) / (n : ℝ)

noncomputable def trigInterpDeriv (x : List ℝ) (n : ℕ) (dt t : ℝ) : ℝ :=
  (∑ k ∈ Finset.Ico 1 ((n + 1) / 2),
    2 * (dftRe x n k * (-(Real.sin (omega n dt k * t) * omega n dt k))
      - dftIm x n k * (Real.cos (omega n dt k * t) * omega n dt k))) / (n : ℝ)

theorem interpolant_eq (x : List ℝ) (h : ℕ) (dt : ℝ) : interpolant x h dt = trigInterp x (2 * h) dt := by
  unfold interpolant trigInterp; rw [two_mul_succ_div_two]

theorem interpolantDeriv_eq (x : List ℝ) (h : ℕ) (dt : ℝ) : interpolantDeriv x h dt = trigInterpDeriv x (2 * h) dt := by
  unfold interpolantDeriv trigInterpDeriv; rw [two_mul_succ_div_two]

theorem trigInterp_hasDerivAt (x : List ℝ) (n : ℕ) (dt t : ℝ) :
    HasDerivAt (trigInterp x n dt) (trigInterpDeriv x n dt t) t := by
  unfold trigInterp trigInterpDeriv
  refine ((HasDerivAt.fun_sum fun k _ => ?_).const_add (dftRe x n 0)).div_const _
  have hlin : HasDerivAt (fun t => omega n dt k * t) (omega n dt k) t := hasDerivAt_const_mul _
  exact (((hlin.cos.const_mul (dftRe x n k)).fun_sub (hlin.sin.const_mul (dftIm x n k))).const_mul 2).congr_deriv
    (by ring)

theorem omega_at_sample (n : ℕ) (dt : ℝ) (hdt : dt ≠ 0) (k j : ℕ) :
    omega n dt k * ((j : ℝ) * dt) = 2 * Real.pi * ((k * j : ℕ) : ℝ) / (n : ℝ) := by
  rw [omega, Nat.cast_mul,
    show 2 * Real.pi * ((k : ℝ) / (n * dt)) * (j * dt) = 2 * Real.pi * (k * j) / n * (dt / dt) by ring,
    div_self hdt, mul_one]

/-- **Differentiation**, any FFT length `n ≥ len(x)`: sample `j` of the returned series is the derivative of the
interpolant at `j·dt`. -/
theorem differentiate_getElem? (x : List ℝ) (n : ℕ) (hlen : x.length ≤ n) (dt : ℝ) (hdt : dt ≠ 0)
    (j : ℕ) (hj : j < x.length) :
    (differentiate x n dt)[j]? = some (trigInterpDeriv x n dt ((j : ℝ) * dt)) := by
  have hn : n ≠ 0 := (Nat.zero_lt_of_lt (hj.trans_le hlen)).ne'
  unfold differentiate
  simp only [List.getElem?_map, List.getElem?_range hj, Option.map_some, Option.some.injEq]
  -- bin `k` of the multiplied spectrum contributes `ω_k (−Re X_k sin θ − Im X_k cos θ)` with `θ = 2πkj/n = ω_k·j·dt` (`?bins`)
  rw [irfftAt_eq _ n j hn, halfSum_congr n _ (fun k => dftRe x n k * (-(Real.sin (omega n dt k * (j * dt)) * omega n dt k))
      - dftIm x n k * (Real.cos (omega n dt k * (j * dt)) * omega n dt k)) ?bins]
  case bins =>
    intro k hk
    rw [rfft_zipMap_getD x n k hlen hk, omega_at_sample n dt hdt k j]
    simp only [ofNat_real, pi_real, Nat.cast_ofNat, omega]
    ring
  -- the 0 Hz term vanishes with `ω_0`, the Nyquist term with `Im X_{n/2}` and `sin(πj)`
  rw [halfSum_interior n _ ?dc ?nyq, trigInterpDeriv, Finset.mul_sum]
  case dc => rw [omega, Nat.cast_zero, zero_div, mul_zero]; ring
  case nyq =>
    intro h2
    rw [dftIm_nyquist x n h2, omega_at_sample n dt hdt, sin_nyquist n j h2]; ring

theorem trigInterp_interpolates (x : List ℝ) (n : ℕ) (hlen : x.length ≤ n) (dt : ℝ) (hdt : dt ≠ 0)
    (j : ℕ) (hj : j < n) :
    trigInterp x n dt ((j : ℝ) * dt) + (if n % 2 = 0 then T x n (n / 2) j else 0) / (n : ℝ) = padR x j := by
  have hn' : (n : ℝ) ≠ 0 := Nat.cast_ne_zero.mpr (Nat.zero_lt_of_lt hj).ne'
  have key := half_inversion_gen x n hlen j hj
  simp only [halfSum, T_zero, Finset.mul_sum] at key
  rw [trigInterp, ← add_div, Finset.sum_congr rfl fun k _ => by rw [omega_at_sample n dt hdt k j]]
  unfold T at key ⊢
  exact (div_eq_iff hn').mpr (key.trans (mul_comm _ _))

/-- the interpolant (plus its Nyquist term) passes through the samples -/
theorem interpolant_interpolates (x : List ℝ) (h : ℕ) (hh : 1 ≤ h) (hlen : x.length ≤ 2 * h) (dt : ℝ) (hdt : dt ≠ 0)
    (j : ℕ) (hj : j < 2 * h) :
    interpolant x h dt ((j : ℝ) * dt)
      + dftRe x (2 * h) h * Real.cos (2 * Real.pi * ((h * j : ℕ) : ℝ) / ((2 * h : ℕ) : ℝ)) / ((2 * h : ℕ) : ℝ) = padR x j := by
  have := trigInterp_interpolates x (2 * h) hlen dt hdt j hj
  rwa [if_pos (Nat.mul_mod_right 2 h), T_nyquist x (2 * h) j (Nat.mul_mod_right 2 h), Nat.mul_div_cancel_left h two_pos,
    ← interpolant_eq] at this

/-- **Differentiation returns the spectral derivative**: sample `j` of the returned series is the derivative, at
`t = j·dt`, of the band-limited interpolant of the (zero-padded) input. -/
theorem differentiate_is_derivative (x : List ℝ) (h : ℕ) (hh : 1 ≤ h) (hlen : x.length ≤ 2 * h) (dt : ℝ) (hdt : dt ≠ 0)
    (j : ℕ) (hj : j < x.length) :
    (differentiate x (2 * h) dt)[j]? = some (interpolantDeriv x h dt ((j : ℝ) * dt)) ∧
    HasDerivAt (interpolant x h dt) (interpolantDeriv x h dt ((j : ℝ) * dt)) ((j : ℝ) * dt) := by
  rw [interpolant_eq, interpolantDeriv_eq]
  exact ⟨differentiate_getElem? x _ hlen dt hdt j hj, trigInterp_hasDerivAt x _ dt _⟩

end HV.C17
