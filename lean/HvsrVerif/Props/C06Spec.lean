import HvsrVerif.Props.C06
/-!
# C06 (continued) — the iteration is the published one (Cox et al. 2020), stated in textbook terms

`Props/C06.lean::iter_keeps_iff` says which windows an iteration keeps, given the bounds. Here the two remaining pieces
of "follows the published algorithm" are spelled out over `ℝ`:
* `bounds_lognormal` / `bounds_normal` — the bounds of an iteration are `exp(μ_ln ± n·σ_ln)` resp. `μ ± n·σ`, where `μ`, `σ`
  are the mean and the `N − 1` sample standard deviation (of the logarithms, for lognormal) of the peak frequencies of the
  currently valid windows that have a peak;
* `iter_stop_rule` — for an iteration in which mean and standard deviation are defined before and after the inner loop
  (the four `some` hypotheses; an undefined one makes every comparison false, `conv_false_undefined`): the loop stops
  after it iff one of the zero guards fires or both `| |μ' − f_mc'| − |μ − f_mc| | / |μ − f_mc| < 0.01` and `|σ' − σ| < 0.01` hold.
-/
namespace HV.C06

/-- the valid peak frequencies that exist (windows without a peak never enter) -/
noncomputable def validFreqs (s : HvTrad ℝ) : List ℝ := somes s.peakFreqs

theorem bounds_normal (k : ℝ) (s : HvTrad ℝ) (h2 : 2 ≤ (validFreqs s).length) :
    s.nthStdFn k .normal =
      let F := validFreqs s
      let μ := F.sum / (F.length : ℝ)
      let σ := Real.sqrt ((F.map (fun x => (x - μ) ^ 2)).sum / ((F.length : ℝ) - 1))
      some (μ + k * σ) := by
  unfold HvTrad.nthStdFn HvTrad.meanFn HvTrad.stdFn validFreqs at *
  have hne : (somes s.peakFreqs).length ≠ 0 := Nat.ne_of_gt (Nat.lt_of_lt_of_le Nat.two_pos h2)
  rw [nanmeanW_unweighted, nanstdW_unweighted .normal _ h2]
  simp only [hne, if_false, pre_normal, List.map_id', nthStdO, nthStd, Dist.postMean]

theorem bounds_lognormal (k : ℝ) (s : HvTrad ℝ) (h2 : 2 ≤ (validFreqs s).length) :
    s.nthStdFn k .lognormal =
      let L := (validFreqs s).map Real.log
      let μ := L.sum / (L.length : ℝ)
      let σ := Real.sqrt ((L.map (fun x => (x - μ) ^ 2)).sum / ((L.length : ℝ) - 1))
      some (Real.exp (μ + k * σ)) := by
  unfold HvTrad.nthStdFn HvTrad.meanFn HvTrad.stdFn validFreqs at *
  have hne : (somes s.peakFreqs).length ≠ 0 := Nat.ne_of_gt (Nat.lt_of_lt_of_le Nat.two_pos h2)
  rw [nanmeanW_unweighted, nanstdW_unweighted .lognormal _ h2]
  simp only [hne, if_false, pre_lognormal, nthStdO, nthStd, Dist.postMean, exp_real, log_real, Real.log_exp, List.length_map]

/-- **The published stopping rule.** -/
theorem iter_stop_rule (p : FdwraParams ℝ) (s s' : HvTrad ℝ) (stop : Bool) (tr : FdwraTrace ℝ)
    (h : fdwraIter p s = .ok (s', stop, tr)) (mB sB mA sA : ℝ)
    (hmB : tr.meanBefore = some mB) (hsB : tr.stdBefore = some sB) (hmA : tr.meanAfter = some mA) (hsA : tr.stdAfter = some sA) :
    stop = true ↔
      (|mB - tr.mcBefore| = 0 ∨ sB = 0 ∨ sA = 0 ∨
        (abs (|mA - tr.mcAfter| - |mB - tr.mcBefore|) / |mB - tr.mcBefore| < 0.01 ∧ |sA - sB| < 0.01)) := by
  rw [fdwraIter_eq] at h
  obtain ⟨pb, -, h⟩ := (bind_eq_ok _ _ _).mp h
  obtain ⟨pa, -, h⟩ := (bind_eq_ok _ _ _).mp h
  obtain ⟨-, rfl, rfl⟩ := ok3_inj h
  simp only at hmB hsB hmA hsA
  simp only [iterStop, hmB, hsB, hsA, hmA, Option.map_some, Option.bind_some, optIsZero, Bool.or_eq_true, eqA_real, absA_real, ofNat_real,
    Nat.cast_zero, optLt, Bool.and_eq_true, decide_eq_true_eq, limits_value.1, limits_value.2, or_assoc]

end HV.C06
