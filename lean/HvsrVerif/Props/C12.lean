import HvsrVerif.Props.C08
import HvsrVerif.Model.ObjectIO
/-!
# C12 — HVSR results survive a write/read round trip after any history

Model: `Model/ObjectIO.lean`. The reader's peak search reproduces the stored peaks because of the invariant
`C08.PeaksOk` (peaks track the range), which holds for every reachable object (`C08.peaks_track_range`).
-/
namespace HV.C12

/-! ### label run-length round trip (the reader BEFORE the repair of C12-d: groups by label change alone) -/

/-- well-formed label runs: every run is non-empty and adjacent runs carry different labels -/
def WF {L : Type} : List (L × Nat) → Prop
  | [] => True
  | [(_, n)] => 0 < n
  | (a, n) :: (b, m) :: t => 0 < n ∧ a ≠ b ∧ WF ((b, m) :: t)

theorem group_replicate_append {L : Type} [DecidableEq L] (a : L) (n : Nat) (hn : 0 < n) (rest : List L)
    (hrest : ∀ b r, groupLabels rest = b :: r → b.1 ≠ a) :
    groupLabels (List.replicate n a ++ rest) = (a, n) :: groupLabels rest := by
  induction n, hn using Nat.le_induction with
  | base =>
    simp only [List.replicate, List.cons_append, List.nil_append, groupLabels]
    split
    · rename_i b m r hg
      rw [if_neg (hrest _ _ hg).symm, hg]
    · rename_i hg
      rw [hg]
  | succ k _ ih => simp only [List.replicate_succ, List.cons_append, groupLabels, ih, if_true]

theorem WF.of_cons {L : Type} {a : L} {n : Nat} {t : List (L × Nat)} (h : WF ((a, n) :: t)) :
    0 < n ∧ WF t ∧ ∀ b r, t = b :: r → b.1 ≠ a := by
  match t, h with
  | [], h => exact ⟨h, trivial, nofun⟩
  | (b, m) :: t, h => exact ⟨h.1, h.2.2, fun _ _ e => by cases e; exact h.2.1.symm⟩

/-- The OLD reader's grouping inverts the writer's labelling whenever every azimuth has at least one curve and
adjacent azimuths differ (both hypotheses are necessary -- the second one was defect C12-d; see `group_expand_numbered` for the repaired reader). -/
theorem group_expand {L : Type} [DecidableEq L] (l : List (L × Nat)) (h : WF l) : groupLabels (expandLabels l) = l := by
  induction l with
  | nil => rfl
  | cons p t ih =>
    obtain ⟨hn, hw, hne⟩ := WF.of_cons h
    rw [expandLabels, group_replicate_append p.1 p.2 hn _ fun b r hb => hne b r (ih hw ▸ hb), ih hw]

/-- both hypotheses are needed: an empty run disappears, equal neighbours merge -/
theorem group_expand_needs_wf :
    groupLabels (expandLabels [((1 : Nat), 0), (2, 1)]) ≠ [(1, 0), (2, 1)] ∧
    groupLabels (expandLabels [((1 : Nat), 1), (1, 2)]) ≠ [(1, 1), (1, 2)] := by decide +kernel

/-! ### numbered labels (the reader after the repair of C12-d) -/

theorem groupNumbered_ne_nil {L : Type} [DecidableEq L] (x : L × Nat) (t : List (L × Nat)) : groupNumbered (x :: t) ≠ [] := by
  induction t generalizing x with
  | nil => obtain ⟨a, i⟩ := x; simp [groupNumbered]
  | cons y t ih =>
    obtain ⟨a, i⟩ := x; obtain ⟨b, j⟩ := y
    simp only [groupNumbered]
    split
    · split <;> simp
    · simp

theorem group_labelRun_append {L : Type} [DecidableEq L] (a : L) (m : Nat) (hm : 0 < m) (rest : List (L × Nat))
    (hrest : ∀ b j t, rest = (b, j) :: t → j = 1) :
    ∀ k, groupNumbered (labelRun a k m ++ rest) = (a, m) :: groupNumbered rest := by
  obtain ⟨n, rfl⟩ := Nat.exists_eq_add_one.mpr hm
  clear hm
  induction n with
  | zero =>
    intro k
    match rest, hrest with
    | [], _ => rfl
    | (b, j) :: t, hrest =>
      cases hrest b j t rfl
      simp only [labelRun, List.cons_append, List.nil_append, groupNumbered]
      split
      · rename_i hg
        -- the next column is numbered 1: a new group starts, whatever its label
        rw [if_neg fun h => h.2 rfl, hg]
      · rename_i hg
        exact absurd hg (groupNumbered_ne_nil _ _)
  | succ n ih =>
    intro k
    have h := ih (k + 1)
    simp only [labelRun, List.cons_append] at h ⊢
    simp only [groupNumbered, h]
    -- the next column has the same label and the number `k + 2 ≠ 1`: the head joins its group
    exact if_pos ⟨trivial, Nat.succ_ne_succ.mpr (Nat.succ_ne_zero k)⟩

theorem expandNumbered_head {L : Type} (l : List (L × Nat)) (h : ∀ p ∈ l, 0 < p.2) :
    ∀ b j t, expandNumbered l = (b, j) :: t → j = 1 := by
  intro b j t e
  match l, h with
  | [], _ => cases e
  | (a, 0) :: _, h => exact absurd (h (a, 0) List.mem_cons_self) (Nat.lt_irrefl 0)
  | (a, n + 1) :: _, _ =>
    cases e
    rfl

/-- **After the repair the reader's grouping inverts the writer's labelling for EVERY azimuth list** in which each azimuth has at least one curve --
equal neighbours included (no hypothesis on the labels). -/
theorem group_expand_numbered {L : Type} [DecidableEq L] (l : List (L × Nat)) (h : ∀ p ∈ l, 0 < p.2) :
    groupNumbered (expandNumbered l) = l := by
  induction l with
  | nil => rfl
  | cons p t ih =>
    obtain ⟨a, n⟩ := p
    have ht : ∀ p ∈ t, 0 < p.2 := fun p hp => h p (List.mem_cons_of_mem _ hp)
    simp only [expandNumbered]
    rw [group_labelRun_append a n (h (a, n) List.mem_cons_self) _ (expandNumbered_head t ht) 0, ih ht]

/-- the two cases the old criterion got wrong are read back correctly: equal neighbours, and equal neighbours holding one curve each -/
example : groupNumbered (expandNumbered [((15 : Nat), 3), (15, 3)]) = [(15, 3), (15, 3)] := by decide +kernel
example : groupNumbered (expandNumbered [((5 : Nat), 1), (5, 1), (5, 1), (7, 2)]) = [(5, 1), (5, 1), (5, 1), (7, 2)] := by decide +kernel
/-- an empty run still disappears: "at least one curve per azimuth" is necessary -/
theorem group_expand_numbered_needs_nonempty :
    groupNumbered (expandNumbered [((1 : Nat), 0), (2, 1)]) ≠ [(1, 0), (2, 1)] := by decide +kernel

theorem splitBy_flatMap {β γ : Type} (f : γ → List β) (l : List γ) :
    splitBy (l.map fun x => (f x).length) (l.flatMap f) = l.map f := by
  induction l with
  | nil => rfl
  | cons x t ih => simp only [List.map_cons, List.flatMap_cons, splitBy, List.take_left', List.drop_left', ih]

theorem rebuild_eq {s : HvTrad ℝ} {r : Range ℝ} (hr : s.range = some r)
    (hp : s.peaks = s.rows.map (fun row => findPeakBounded s.freq row r)) :
    { updatePeaks r false (HvTrad.init s.freq s.rows) with vWin := s.vWin, vPeak := s.vPeak } = s := by
  cases s
  simp only at hr hp
  simp only [updatePeaks_false_eq, recomputePeaks, HvTrad.init, hr, hp]

/-- **Round trip, traditional.** For every object whose peaks are those of its stored range (every reachable
object), whatever its masks, reading what was written gives back the same frequencies, curves, range, peaks
and masks — hence the same value of every statistic. -/
theorem read_write_id_trad (d : Dist) (s : HvTrad ℝ) (r : Range ℝ) (hr : s.range = some r)
    (hp : s.peaks = s.rows.map (fun row => findPeakBounded s.freq row r)) :
    readTrad (writeTrad d s) = s := by
  simp only [readTrad, writeTrad, hr, Option.getD_some]
  exact rebuild_eq hr hp

/-- every reachable traditional object round-trips -/
theorem read_write_id_reachable (d : Dist) (freq : List ℝ) (rows : List (List ℝ)) (s : HvTrad ℝ)
    (h : C08.Reach (HvTrad.init freq rows) s) : readTrad (writeTrad d s) = s := by
  obtain ⟨⟨r, hr, hp⟩, _, _⟩ := C08.peaks_track_range freq rows s h
  exact read_write_id_trad d s r hr hp

/-- **Derived columns.** The two last columns of the file are the mean curve and its standard deviation of the
object that was written, for the distribution requested at write time. -/
theorem derived_columns_trad (d : Dist) (s : HvTrad ℝ) :
    (writeTrad d s).meanCol = s.meanCurve d ∧ (writeTrad d s).stdCol = s.stdCurve d := ⟨rfl, rfl⟩

theorem derived_columns_az {L : Type} (label : ℝ → L) (d : Dist) (s : HvAz ℝ) :
    (writeAz label d s).meanCol = s.meanCurve d ∧ (writeAz label d s).stdCol = s.stdCurve d := ⟨rfl, rfl⟩

/-- the object is what an `HvsrAzimuthal` can be: every azimuth holds the same frequencies and range, its peaks are
those of that range, every azimuth has at least one curve (nothing is asked of the azimuth list: after the repair of C12-d equal
neighbours are fine) -/
structure AzOk {L : Type} (label : ℝ → L) (s : HvAz ℝ) (freq : List ℝ) (r : Range ℝ) : Prop where
  len : s.azimuths.length = s.hvsrs.length
  nonempty : s.hvsrs ≠ []
  freqs : ∀ h ∈ s.hvsrs, h.freq = freq
  ranges : ∀ h ∈ s.hvsrs, h.range = some r
  peaks : ∀ h ∈ s.hvsrs, h.peaks = h.rows.map (fun row => findPeakBounded h.freq row r)
  curves : ∀ h ∈ s.hvsrs, h.rows ≠ []

/-- **Round trip, azimuthal**, for labels that parse back to the azimuth they were printed from. -/
theorem read_write_id_az {L : Type} [DecidableEq L] (label : ℝ → L) (parse : L → ℝ) (hlp : ∀ a, parse (label a) = a)
    (d : Dist) (s : HvAz ℝ) (freq : List ℝ) (r : Range ℝ) (ok : AzOk label s freq r) :
    readAz parse (writeAz label d s) = s := by
  obtain ⟨hlen, hne, hfreq, hrange, hpeaks, hcurves⟩ := ok
  obtain ⟨hv, az⟩ := s
  simp only at hlen hne hfreq hrange hpeaks hcurves
  obtain ⟨h0, hfr0, hr0, hf0⟩ : ∃ h0, hv.head? = some h0 ∧ h0.range = some r ∧ h0.freq = freq := by
    cases hv with
    | nil => exact absurd rfl hne
    | cons h0 t => exact ⟨h0, rfl, hrange h0 List.mem_cons_self, hfreq h0 List.mem_cons_self⟩
  simp only [readAz, writeAz, hfr0, hr0, hf0, Option.map_some, Option.getD_some, Option.bind_some]
  -- the header is grouped back into (label, number of curves) per azimuth, the columns are split accordingly
  rw [group_expand_numbered _ fun p hp => by
    obtain ⟨q, hq, rfl⟩ := List.mem_map.mp hp
    exact List.length_pos_iff.mpr (hcurves _ (List.of_mem_zip hq).2)]
  have hcounts : ((List.zip az hv).map (fun p => (label p.1, p.2.rows.length))).map (·.2) = hv.map (fun h => h.rows.length) := by
    conv_rhs => rw [← List.map_snd_zip (l₁ := az) (l₂ := hv) hlen.ge]
    simp only [List.map_map]
    rfl
  have hazs : ((List.zip az hv).map (fun p => (label p.1, p.2.rows.length))).map (fun g => parse g.1) = az := by
    rw [List.map_map]
    conv_rhs => rw [← List.map_fst_zip (l₁ := az) (l₂ := hv) hlen.le]
    exact List.map_congr_left fun p _ => hlp _
  rw [hcounts, hazs, splitBy_flatMap, List.map_map, List.zip_map', List.zip_map', List.map_map]
  congr 1
  -- every azimuth is rebuilt as it was
  conv_rhs => rw [← List.map_id hv]
  exact List.map_congr_left fun h hm => hfreq h hm ▸ rebuild_eq (hrange h hm) (hpeaks h hm)

/-! ### Non-vacuity -/
example : groupLabels (expandLabels [((0 : Nat), 2), (45, 1), (90, 3)]) = [(0, 2), (45, 1), (90, 3)] := by decide +kernel
example : WF [((0 : Nat), 2), (45, 1), (90, 3)] := by simp only [WF]; decide +kernel
example : splitBy [2, 1] [10, 20, 30] = [[10, 20], [30]] := by decide +kernel

end HV.C12
