import HvsrVerif.Props.C11
/-!
# C11 (continued) — weighted statistics depend only on the multiset of (value, weight) pairs

`weighted_stats_perm`: the weighted mean and the Cheng standard deviation are unchanged by any simultaneous permutation of
the values and their weights; `azimuth_order_stats`: hence permuting the azimuths (each keeping its windows and therefore
its weights) changes neither the mean nor the standard deviation of an azimuthal result.
-/
namespace HV.C11

theorem weighted_pre_perm (d : Dist) (xs ws xs' ws' : List ℝ) (hl : xs.length = ws.length) (hl' : xs'.length = ws'.length)
    (hp : (List.zip xs ws).Perm (List.zip xs' ws')) :
    nanmeanPre d (xs.map some) (some ws) = nanmeanPre d (xs'.map some) (some ws') ∧
    nanstdW d (xs.map some) (some ws) .cheng = nanstdW d (xs'.map some) (some ws') .cheng := by
  have hw : ws.Perm ws' := List.map_snd_zip hl.ge ▸ List.map_snd_zip hl'.ge ▸ hp.map Prod.snd
  have key := fun F : ℝ × ℝ → ℝ => (hp.map F).sum_eq
  have hmean : nanmeanPre d (xs.map some) (some ws) = nanmeanPre d (xs'.map some) (some ws') := by
    rw [nanmeanPre_weighted, nanmeanPre_weighted, key, hw.sum_eq]
  refine ⟨hmean, ?_⟩
  rw [nanstdW_weighted, nanstdW_weighted, hmean, (hw.map _).sum_eq]
  simp only [key]

theorem weighted_stats_perm (d : Dist) (xs ws xs' ws' : List ℝ) (hl : xs.length = ws.length) (hl' : xs'.length = ws'.length)
    (hp : (List.zip xs ws).Perm (List.zip xs' ws')) :
    nanmeanW d (xs.map some) (some ws) = nanmeanW d (xs'.map some) (some ws') ∧
    nanstdW d (xs.map some) (some ws) .cheng = nanstdW d (xs'.map some) (some ws') .cheng :=
  (weighted_pre_perm d xs ws xs' ws' hl hl' hp).imp_left (congrArg (Option.map d.postMean))

theorem pooled_perm (d : Dist) (A : ℕ) (groups groups' : List (List ℝ))
    (hp : (groups.flatMap fun g => g.map fun x => (x, 1 / ((A * g.length : ℕ) : ℝ))).Perm
      (groups'.flatMap fun g => g.map fun x => (x, 1 / ((A * g.length : ℕ) : ℝ)))) :
    nanmeanPre d ((groups.flatMap (fun g => g)).map some) (some (groupWeights A groups)) =
      nanmeanPre d ((groups'.flatMap (fun g => g)).map some) (some (groupWeights A groups')) ∧
    nanstdW d ((groups.flatMap (fun g => g)).map some) (some (groupWeights A groups)) .cheng =
      nanstdW d ((groups'.flatMap (fun g => g)).map some) (some (groupWeights A groups')) .cheng :=
  weighted_pre_perm d _ _ _ _ (groupWeights_length _ _).symm (groupWeights_length _ _).symm
    (by rw [zip_groups, zip_groups]; exact hp)

/-- **Nothing depends on the order of the azimuths**: mean and (Cheng) standard deviation, both distributions, any
numbers of accepted windows per azimuth. -/
theorem azimuth_order_stats (d : Dist) (groups groups' : List (List ℝ)) (hp : groups.Perm groups') :
    nanmeanW d ((groups.flatMap (fun g => g)).map some) (some (groupWeights groups.length groups)) =
      nanmeanW d ((groups'.flatMap (fun g => g)).map some) (some (groupWeights groups'.length groups')) ∧
    nanstdW d ((groups.flatMap (fun g => g)).map some) (some (groupWeights groups.length groups)) .cheng =
      nanstdW d ((groups'.flatMap (fun g => g)).map some) (some (groupWeights groups'.length groups')) .cheng := by
  -- both layouts have `A = groups.length` azimuths, and permuting the azimuths permutes the pooled (window, weight) pairs
  have h := pooled_perm d groups.length groups groups' (hp.flatMap_right _)
  rw [← hp.length_eq]
  exact h.imp_left (congrArg (Option.map d.postMean))

end HV.C11
