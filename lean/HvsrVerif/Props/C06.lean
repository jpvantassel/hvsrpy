import HvsrVerif.Proofs.ScaleLemmas
import HvsrVerif.Proofs.ExceptLemmas
/-!
# C06 — Frequency-domain window rejection follows Cox et al. (2020) and terminates

Model: `Model/Fdwra.lean` (mirror of `_frequency_domain_window_rejection`).
-/
namespace HV.C06

/-- **One iteration removes exactly the accepted windows whose peak frequency lies outside
`(lower, upper)`**: window `i` has a valid peak afterwards iff it had one before and
`lower < f_i < upper` (strict, as published; undefined bounds keep nothing). -/
theorem iter_keeps_iff (lower upper : Option ℝ) (s : HvTrad ℝ) (i : Nat) :
    (fdwraApply lower upper s).vPeak[i]? = some true ↔
      s.vPeak[i]? = some true ∧ ∃ l u f a, lower = some l ∧ upper = some u ∧ s.peaks[i]? = some (some (f, a)) ∧
        l < f ∧ f < u := by
  unfold fdwraApply fdwraKeep
  simp only [List.getElem?_map, List.getElem?_zip_eq_some, Option.map_eq_some_iff]
  constructor
  · rintro ⟨⟨b, pk⟩, ⟨hb, hpk⟩, hk⟩
    simp only at hk
    split at hk
    · rename_i hbt
      simp only [Bool.and_eq_true, optLt_real] at hk
      obtain ⟨⟨l, f, hl, hf, hlf⟩, ⟨f', u, hf', hu, hfu⟩⟩ := hk
      obtain ⟨⟨f0, a0⟩, rfl, rfl⟩ := Option.map_eq_some_iff.mp hf
      cases Option.some.inj hf'
      exact ⟨hbt ▸ hb, l, u, f0, a0, hl, hu, hpk, hlf, hfu⟩
    · cases hk
  · rintro ⟨hb, l, u, f, a, hl, hu, hpk, hlf, hfu⟩
    refine ⟨(true, some (f, a)), ⟨hb, hpk⟩, ?_⟩
    simp [hl, hu, optLt, hlf, hfu]

theorem ite_true_or {β : Type} (g : Bool → β) (z c : Bool) : (if z = true then g true else g c) = g (z || c) := by
  cases z <;> rfl

/-- the exit test of the loop body as a function of the six numbers it looks at (mean, standard deviation of the peak
frequencies and frequency of the mean-curve peak, before and after the inner loop): a zero guard fires, or both changes
are below the limits; an undefined number makes every comparison false -/
noncomputable def iterStop (mB sB : Option ℝ) (mcB : ℝ) (mA sA : Option ℝ) (mcA : ℝ) : Bool :=
  optIsZero (mB.map fun m => absA (m - mcB)) || optIsZero sB || optIsZero sA ||
    (optLt ((mA.map fun m => absA (m - mcA)).bind fun a => (mB.map fun m => absA (m - mcB)).map fun b => absA (a - b) / b)
        (some (lit fdwraLimits.1)) &&
      optLt (sA.bind fun a => sB.map fun b => absA (a - b)) (some (lit fdwraLimits.2)))

/-- **One iteration as an equation**: it refuses iff a mean-curve peak is missing (before or after the inner loop); otherwise it
returns the object after the inner loop, the exit test `iterStop` and the eight recorded numbers. -/
theorem fdwraIter_eq (p : FdwraParams ℝ) (s : HvTrad ℝ) :
    fdwraIter p s = (s.meanCurvePeak p.dMc).bind fun pb =>
      let lo := s.nthStdFn (-p.n) p.dFn
      let up := s.nthStdFn p.n p.dFn
      let s' := fdwraApply lo up s
      (s'.meanCurvePeak p.dMc).bind fun pa =>
        .ok (s', iterStop (s.meanFn p.dFn) (s.stdFn p.dFn) pb.1 (s'.meanFn p.dFn) (s'.stdFn p.dFn) pa.1,
          ⟨s.meanFn p.dFn, s.stdFn p.dFn, pb.1, lo, up, s'.meanFn p.dFn, s'.stdFn p.dFn, pa.1⟩) := by
  unfold fdwraIter iterStop
  simp only
  generalize fdwraApply (s.nthStdFn (-p.n) p.dFn) (s.nthStdFn p.n p.dFn) s = s'
  cases s.meanCurvePeak p.dMc with
  | error e => rfl
  | ok pb =>
    cases s'.meanCurvePeak p.dMc with
    | error e => rfl
    | ok pa =>
      obtain ⟨mcB, _⟩ := pb
      obtain ⟨mcA, _⟩ := pa
      -- both exits return the same object and trace: the flag is "a zero guard fires, or converged"
      refine (ite_true_or (fun b => Except.ok (s', b, _)) _ _).trans ?_
      show Except.ok _ = Except.ok _
      -- what is left differs in the two changes only: the model's `match x, y` against `x.bind fun a => y.map …`
      congr 6
      · cases s'.meanFn p.dFn <;> cases s.meanFn p.dFn <;> rfl
      · cases s'.stdFn p.dFn <;> cases s.stdFn p.dFn <;> rfl

theorem iter_ok (p : FdwraParams ℝ) {s s' : HvTrad ℝ} {b : Bool} {tr : FdwraTrace ℝ}
    (h : fdwraIter p s = .ok (s', b, tr)) :
    s' = fdwraApply (s.nthStdFn (-p.n) p.dFn) (s.nthStdFn p.n p.dFn) s := by
  rw [fdwraIter_eq] at h
  obtain ⟨pb, -, h⟩ := (bind_eq_ok _ _ _).mp h
  obtain ⟨pa, -, h⟩ := (bind_eq_ok _ _ _).mp h
  exact (ok3_inj h).1.symm

theorem loop_spec (p : FdwraParams ℝ) (I : HvTrad ℝ → Prop)
    (hI : ∀ lo up s, I s → I (fdwraApply lo up s)) :
    ∀ {fuel done : Nat} {s s' : HvTrad ℝ} {k : Nat} {trs : List (FdwraTrace ℝ)},
      fdwraLoop p fuel done s = .ok (k, s', trs) → I s →
      I s' ∧ k = done + trs.length ∧ trs.length ≤ fuel ∧ (0 < fuel → 0 < trs.length) := by
  intro fuel
  induction fuel with
  | zero =>
    intro done s s' k trs h hs
    obtain ⟨rfl, rfl, rfl⟩ := ok3_inj h
    exact ⟨hs, rfl, Nat.le_refl 0, fun h0 => h0⟩
  | succ fuel ih =>
    intro done s s' k trs h hs
    unfold fdwraLoop at h
    split at h
    · cases h
    · rename_i s1 stop tr hit
      split at h
      · obtain ⟨rfl, rfl, rfl⟩ := ok3_inj h
        exact ⟨iter_ok p hit ▸ hI _ _ s hs, rfl, Nat.succ_le_succ (Nat.zero_le _), fun _ => Nat.one_pos⟩
      · split at h
        · cases h
        · rename_i k2 s2 trs2 hrec
          obtain ⟨rfl, rfl, rfl⟩ := ok3_inj h
          obtain ⟨a0, a1, a2, -⟩ := ih hrec (iter_ok p hit ▸ hI _ _ s hs)
          exact ⟨a0, by rw [a1, List.length_cons, Nat.add_assoc, Nat.add_comm 1], Nat.succ_le_succ a2, fun _ => Nat.succ_pos _⟩

theorem loop_sim (p : FdwraParams ℝ) (T : HvTrad ℝ → HvTrad ℝ) (I : HvTrad ℝ → Prop)
    (hI : ∀ lo up s, I s → I (fdwraApply lo up s))
    (hT : ∀ s, I s → fdwraIter p (T s) = (fdwraIter p s).map (fun r => (T r.1, r.2.1, r.2.2))) :
    ∀ (fuel done : Nat) (s : HvTrad ℝ), I s →
      fdwraLoop p fuel done (T s) = (fdwraLoop p fuel done s).map (fun r => (r.1, T r.2.1, r.2.2)) := by
  intro fuel
  induction fuel with
  | zero => intro done s _; rfl
  | succ fuel ih =>
    intro done s hs
    unfold fdwraLoop
    rw [hT s hs]
    cases hit : fdwraIter p s with
    | error e => rfl
    | ok r =>
      obtain ⟨s1, stop, tr⟩ := r
      cases stop with
      | true => rfl
      | false =>
        simp only [Except.map, Bool.false_eq_true, if_false]
        rw [ih (done + 1) s1 (iter_ok p hit ▸ hI _ _ s hs)]
        cases fdwraLoop p fuel (done + 1) s1 <;> rfl

/-- one iteration commutes with `T` when `T` at most reorders the peak frequencies that exist (their mean and standard
deviation are all an iteration uses of them), keeps the frequency of the mean-curve peak, and commutes with the inner loop -/
theorem iter_sim (p : FdwraParams ℝ) (T : HvTrad ℝ → HvTrad ℝ) (I : HvTrad ℝ → Prop)
    (hIa : ∀ lo up s, I s → I (fdwraApply lo up s))
    (hpf : ∀ s, I s → (somes (T s).peakFreqs).Perm (somes s.peakFreqs))
    (hmc : ∀ d s, I s → ∃ g : ℝ → ℝ, (T s).meanCurvePeak d = (s.meanCurvePeak d).map (fun q => (q.1, g q.2)))
    (hap : ∀ lo up s, I s → fdwraApply lo up (T s) = T (fdwraApply lo up s)) (s : HvTrad ℝ) (hs : I s) :
    fdwraIter p (T s) = (fdwraIter p s).map (fun r => (T r.1, r.2.1, r.2.2)) := by
  have hst : ∀ d s, I s → (T s).meanFn d = s.meanFn d ∧ (T s).stdFn d = s.stdFn d := fun d s h => unweighted_congr d (hpf s h)
  have hs' := hIa (s.nthStdFn (-p.n) p.dFn) (s.nthStdFn p.n p.dFn) s hs
  have hn : ∀ k, (T s).nthStdFn k p.dFn = s.nthStdFn k p.dFn := fun k =>
    congrArg₂ (nthStdO k p.dFn) (hst _ s hs).1 (hst _ s hs).2
  obtain ⟨g, h1⟩ := hmc p.dMc s hs
  obtain ⟨g', h2⟩ := hmc p.dMc _ hs'
  rw [fdwraIter_eq, fdwraIter_eq]
  simp only [hst _ s hs, hn, hap _ _ s hs, hst _ _ hs', h1, h2]
  cases s.meanCurvePeak p.dMc with
  | error e => rfl
  | ok pb => cases (fdwraApply (s.nthStdFn (-p.n) p.dFn) (s.nthStdFn p.n p.dFn) s).meanCurvePeak p.dMc <;> rfl

/-- **Never re-accepts.** Relative to the accept state right after the peak search performed on entry, the
final valid-peak mask is pointwise ≤ the entry mask. -/
theorem fdwra_monotone (p : FdwraParams ℝ) (s s' : HvTrad ℝ) (k : Nat) (trs : List (FdwraTrace ℝ))
    (h : fdwraTrad p s = .ok (k, s', trs)) (i : Nat) :
    s'.vPeak[i]? = some true → (updatePeaks p.range false s).vPeak[i]? = some true :=
  -- invariant: who has a valid peak now had one on entry; the inner loop only removes (first half of `iter_keeps_iff`)
  (loop_spec p (I := fun t => t.vPeak[i]? = some true → (updatePeaks p.range false s).vPeak[i]? = some true)
    (hI := fun lo up t ht hi => ht ((iter_keeps_iff lo up t i).mp hi).1) h id).1

/-- **Bounded.** At most `max_iterations` iterations are performed, at least one when `max_iterations ≥ 1`,
and the returned count is the number of iterations performed (one trace entry per iteration). -/
theorem fdwra_bounded (p : FdwraParams ℝ) (s s' : HvTrad ℝ) (k : Nat) (trs : List (FdwraTrace ℝ))
    (h : fdwraTrad p s = .ok (k, s', trs)) :
    k ≤ p.maxIter ∧ (1 ≤ p.maxIter → 1 ≤ k) ∧ trs.length = k := by
  obtain ⟨_, a1, a2, a3⟩ := loop_spec p (fun _ => True) (fun _ _ _ _ => trivial) h trivial
  rw [Nat.zero_add] at a1
  exact ⟨a1 ▸ a2, fun h1 => a1 ▸ a3 h1, a1.symm⟩

/-- the loop body never signalled "stop" on the way (neither converged nor a zero guard) -/
def NeverStops (p : FdwraParams ℝ) : Nat → HvTrad ℝ → Prop
  | 0, _ => True
  | fuel+1, s => ∃ s' tr, fdwraIter p s = .ok (s', false, tr) ∧ NeverStops p fuel s'

theorem loop_limit (p : FdwraParams ℝ) : ∀ (fuel done : Nat) (s : HvTrad ℝ), NeverStops p fuel s →
    ∃ s' trs, fdwraLoop p fuel done s = .ok (done + fuel, s', trs) := by
  intro fuel
  induction fuel with
  | zero => intro done s _; exact ⟨s, [], rfl⟩
  | succ fuel ih =>
    intro done s h
    obtain ⟨s1, tr, hit, hrest⟩ := h
    obtain ⟨s2, trs, hl⟩ := ih (done + 1) s1 hrest
    refine ⟨s2, tr :: trs, ?_⟩
    unfold fdwraLoop
    simp only [hit, Bool.false_eq_true, if_false, hl, Nat.add_assoc, Nat.add_comm 1]

/-- **Count at the limit.** When the iteration limit is reached without convergence the function still
returns a count, namely `max_iterations`. -/
theorem fdwra_returns_count_at_limit (p : FdwraParams ℝ) (s : HvTrad ℝ)
    (h : NeverStops p p.maxIter (updatePeaks p.range false s)) :
    ∃ s' trs, fdwraTrad p s = .ok (p.maxIter, s', trs) := by
  obtain ⟨s', trs, hl⟩ := loop_limit p p.maxIter 0 _ h
  exact ⟨s', trs, Nat.zero_add p.maxIter ▸ hl⟩

/-- **Rescaling all amplitudes leaves decisions and iteration count unchanged.** For positive curves and `c > 0`:
running the rejection on the rescaled object performs the same number of iterations, produces the same trace of
statistics and ends with the same masks (the resulting object is the rescaled result). -/
theorem fdwra_scale (p : FdwraParams ℝ) (c : ℝ) (hc : 0 < c) (s : HvTrad ℝ) (hpos : ∀ r ∈ s.rows, ∀ v ∈ r, 0 < v) :
    fdwraTrad p (scaleState c s) = (fdwraTrad p s).map (fun x => (x.1, scaleState c x.2.1, x.2.2)) ∧
    ∀ k s' trs, fdwraTrad p s = .ok (k, s', trs) →
      ∃ s'', fdwraTrad p (scaleState c s) = .ok (k, s'', trs) ∧ s''.vWin = s'.vWin ∧ s''.vPeak = s'.vPeak := by
  have hmain : fdwraTrad p (scaleState c s) = (fdwraTrad p s).map (fun x => (x.1, scaleState c x.2.1, x.2.2)) := by
    unfold fdwraTrad
    rw [updatePeaks_false_eq, updatePeaks_false_eq, recomputePeaks_scale p.range c hc s]
    -- the invariant, positive curves, is kept because the inner loop writes masks only: `(fdwraApply lo up s).rows` is `s.rows` by `rfl`;
    -- the entry search keeps the curves too, so `hpos` serves for `(recomputePeaks p.range s).rows`
    exact loop_sim p (scaleState c) (I := fun s => ∀ r ∈ s.rows, ∀ v ∈ r, 0 < v) (hI := fun _ _ _ h => h)
      (iter_sim p _ _ (hIa := fun _ _ _ h => h) (hpf := fun s _ => peakFreqs_scale c s ▸ .refl _)
        (hmc := fun d s h => ⟨_, meanCurvePeak_scale d c hc s h⟩) (hap := fun lo up s _ => fdwraApply_scale c lo up s)) _ 0 _ hpos
  refine ⟨hmain, ?_⟩
  intro k s' trs h
  rw [hmain, h]
  exact ⟨scaleState c s', rfl, rfl, rfl⟩

/-- the convergence limits are the published `0.01` / `0.01` -/
theorem limits_value : (lit fdwraLimits.1 : ℝ) = 0.01 ∧ (lit fdwraLimits.2 : ℝ) = 0.01 := by
  have h : (lit (1, 2) : ℝ) = 0.01 := by rw [lit_real]; norm_num
  exact ⟨h, h⟩

/-- **The stopping rule is strict**: the convergence test of an iteration passes iff both changes are *below* 0.01 -- a change that
equals 0.01 exactly does not stop the loop (the boundary exercised by the exact-tie stream of `harness/c06.py`, seed C06-V). -/
theorem conv_iff_both_below (d s : ℝ) :
    (optLt (some d) (some (lit fdwraLimits.1 : ℝ)) && optLt (some s) (some (lit fdwraLimits.2 : ℝ))) = true ↔ d < 0.01 ∧ s < 0.01 := by
  rw [limits_value.1, limits_value.2]
  simp [optLt]

/-- at the tie: `d_diff = 0.01` exactly is not converged, however small `s_diff` is -/
theorem conv_false_at_tie (s : ℝ) :
    (optLt (some (0.01 : ℝ)) (some (lit fdwraLimits.1 : ℝ)) && optLt (some s) (some (lit fdwraLimits.2 : ℝ))) = false := by
  rw [limits_value.1, limits_value.2]
  simp [optLt]

/-- an undefined change (a NaN statistic) never counts as converged -/
theorem conv_false_undefined (s : Option ℝ) :
    (optLt (none : Option ℝ) (some (lit fdwraLimits.1 : ℝ)) && optLt s (some (lit fdwraLimits.2 : ℝ))) = false :=
  rfl

end HV.C06
