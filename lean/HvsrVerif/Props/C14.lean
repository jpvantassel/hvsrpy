import HvsrVerif.Proofs.SpatialLemmas
/-!
# C14 — Spatial weights are nearest-sensor area fractions; Monte-Carlo fn uses them

Property theorems only; the model is `Model/Spatial.lean` (mirror of `hvsrpy/hvsr_spatial.py`),
helper lemmas are in `Proofs/SpatialLemmas.lean`.

Proved: the weighted statistics are the textbook reliability-weighted estimators over all
realisations, are invariant under a common factor of the weights, the Monte-Carlo result is the
statistics of the returned realisations in the requested space and has the closed form for zero
generating deviations (four distribution pairs); every model cell lies inside the hull and inside
the nearest-sensor region of its sensor; retained indices are exactly the strictly-inside sensors
in increasing order; indices and weights are invariant under translations and positive uniform
scalings (whole pipeline).

NOT proved (see `voronoi_partition_partial`): that the cells *cover* the hull (completeness of the
clipping), hence non-negativity of the weights and `∑ weights = 1`, and invariance under a
permutation of the sensors. These are checked exactly in `ℚ` / differentially by the harness on
every generated layout (a test).
-/
namespace HV.C14

/-! ## Weighted statistics (`_statistics`) -/

/-- Multiplying all weights by a constant `c > 0` changes neither the mean nor the standard deviation. -/
theorem statistics_weight_scale (values : List (List ℝ)) (w : List ℝ) (c : ℝ) (hc : 0 < c) :
    statistics values (w.map (fun x => c * x)) = statistics values w :=
  statistics_scale values w c hc.ne'

/-- The per-sample weights `ŵᵢ/N` (`ŵ = w/∑w`, one weight per realisation) sum to one. -/
theorem statistics_sample_weights_sum_to_one {values : List (List ℝ)} {w : List ℝ} {N : ℕ} (hN : N ≠ 0)
    (hrows : ∀ r ∈ values, r.length = N) (hlen : w.length ≤ values.length) (hS : w.sum ≠ 0) :
    ((samples values w N).map (fun s => s.1)).sum = 1 := by
  have hN' : (N : ℝ) ≠ 0 := Nat.cast_ne_zero.mpr hN
  rw [sum_samples_const w hrows (fun u => u), normWeights_real]
  simp only [mul_div_cancel₀ _ hN']
  rw [List.map_snd_zip (by rwa [List.length_map]), sum_map_div, List.map_id', div_self hS]

/-- The mean returned by `_statistics` is the weighted mean `∑ u·x` over all realisations of all
locations, each realisation of location `i` carrying the normalised weight `u = (wᵢ/∑w)/N`. -/
theorem statistics_is_weighted_mean {values : List (List ℝ)} {w : List ℝ} {N : ℕ} {m sd : ℝ}
    (hrows : ∀ r ∈ values, r.length = N) (h : statistics values w = some (m, sd)) :
    m = ((samples values w N).map (fun s => s.1 * s.2)).sum := by
  obtain ⟨-, -, hm, -⟩ := statistics_some hrows h
  rw [hm, sum_samples_mul values w N (fun x => x)]
  simp only [List.map_id']

/-- The standard deviation returned by `_statistics` is the reliability-weighted unbiased estimator
`sqrt(∑ u·(x − m)² / (1 − ∑ u²))` over all realisations. -/
theorem statistics_is_weighted_std {values : List (List ℝ)} {w : List ℝ} {N : ℕ} {m sd : ℝ}
    (hrows : ∀ r ∈ values, r.length = N) (h : statistics values w = some (m, sd)) :
    sd = Real.sqrt (((samples values w N).map (fun s => s.1 * ((s.2 - m) * (s.2 - m)))).sum /
          (1 - ((samples values w N).map (fun s => s.1 * s.1)).sum)) := by
  obtain ⟨-, hN, -, hsd⟩ := statistics_some hrows h
  have hw2 : ((samples values w N).map (fun s => s.1 * s.1)).sum =
      ((List.zip values (normWeights w)).map (fun z => z.2 * z.2)).sum / N := by
    rw [sum_samples_const w hrows (fun u => u * u), ← sum_map_div]
    refine congrArg List.sum (List.map_congr_left fun z _ => ?_)
    rw [div_mul_div_comm, mul_div_assoc', mul_div_mul_left _ _ hN]
  rw [hsd, sum_samples_mul values w N (fun x => (x - m) * (x - m)), hw2]

/-- non-vacuity: two locations, two realisations each, unit weights -/
example : ∃ m sd, statistics [[1, 3], [2, 6]] ([1, 1] : List ℝ) = some (m, sd) ∧ m = 3 := by
  simp only [statistics, statisticsN, normWeights_real, statMean, statNumerator, statW2, sqDev, foldSum_real, sumA_real,
    ofNat_real, List.zip_cons_cons, List.map_cons, List.map_nil, List.sum_cons, List.sum_nil, List.zip_nil_right,
    List.getLast?_cons_cons, List.getLast?_singleton, List.length_cons, List.length_nil]
  -- neither test refuses; the pair that is returned is left as the model computes it, only its mean is evaluated
  rw [if_neg (by norm_num [eqA_real]), if_neg (by norm_num [eqA_real])]
  exact ⟨_, _, rfl, by norm_num⟩

/-! ## Monte-Carlo (`montecarlo_fn`) -/

/-- The reported `(fn_mean, fn_stddev)` are the weighted statistics of the *returned* realisations in
the requested space: of the realisations themselves for `normal`, of their logarithms (mean mapped
back with `exp`) for `lognormal`. -/
theorem mc_statistics_of_realisations {g s : SpDist} {draws : List (List ℝ)} {w : List ℝ} {m sd : ℝ}
    {R : List (List ℝ)} (h : montecarlo g s draws w = some (m, sd, R)) :
    spatialStats s R w = some (m, sd) := by
  obtain ⟨m', hst, hcase⟩ := montecarlo_some h
  rcases hcase with ⟨rfl, rfl, rfl⟩ | ⟨rfl, rfl, rfl⟩
  · exact hst
  · simp only [spatialStats, List.map_map, Function.comp_def, log_real, Real.log_exp, hst, exp_real]

/-- Unchanged when all weights are multiplied by a constant `c > 0`. -/
theorem mc_weight_scale (g s : SpDist) (draws : List (List ℝ)) (w : List ℝ) (c : ℝ) (hc : 0 < c) :
    montecarlo g s draws (w.map (fun x => c * x)) = montecarlo g s draws w := by
  unfold montecarlo
  simp only [statistics_scale _ w c hc.ne']

/-- Zero generating standard deviations (`draws[i]` is `n` copies of `meansᵢ`): the mean is the
closed-form weighted mean of the generator values converted to the spatial space, mapped back. -/
theorem mc_zero_sigma_closed_form {g s : SpDist} {means w : List ℝ} {n : ℕ} {m sd : ℝ} {R : List (List ℝ)}
    (h : montecarlo g s (means.map (fun μ => List.replicate n μ)) w = some (m, sd, R)) :
    (s = .normal ∧ m = wmean (means.map (mcPre g s)) w) ∨
    (s = .lognormal ∧ m = Real.exp (wmean (means.map (mcPre g s)) w)) := by
  obtain ⟨m', hst, hcase⟩ := montecarlo_some h
  have key : m' = wmean (means.map (mcPre g s)) w := statistics_replicate (n := n) (sd := sd)
    (by simpa only [List.map_map, Function.comp_def, List.map_replicate] using hst)
  subst key
  exact hcase.imp (fun ⟨hs, hm, _⟩ => ⟨hs, hm⟩) (fun ⟨hs, hm, _⟩ => ⟨hs, hm⟩)

/-- lognormal generators (`λᵢ`), lognormal spatial statistics: `exp(∑wᵢλᵢ/∑wᵢ)` -/
theorem mc_zero_sigma_lognormal_lognormal {means w : List ℝ} {n : ℕ} {m sd : ℝ} {R : List (List ℝ)}
    (h : montecarlo .lognormal .lognormal (means.map (fun μ => List.replicate n μ)) w = some (m, sd, R)) :
    m = Real.exp (wmean means w) := by
  rcases mc_zero_sigma_closed_form h with ⟨hs, -⟩ | ⟨-, hm⟩
  · cases hs
  · rwa [mcPre_self, List.map_id'] at hm

/-- normal generators (`μᵢ`), normal spatial statistics: `∑wᵢμᵢ/∑wᵢ` -/
theorem mc_zero_sigma_normal_normal {means w : List ℝ} {n : ℕ} {m sd : ℝ} {R : List (List ℝ)}
    (h : montecarlo .normal .normal (means.map (fun μ => List.replicate n μ)) w = some (m, sd, R)) :
    m = wmean means w := by
  rcases mc_zero_sigma_closed_form h with ⟨-, hm⟩ | ⟨hs, -⟩
  · rwa [mcPre_self, List.map_id'] at hm
  · cases hs

/-- lognormal generators, normal spatial statistics: `∑wᵢ·exp λᵢ/∑wᵢ` -/
theorem mc_zero_sigma_lognormal_normal {means w : List ℝ} {n : ℕ} {m sd : ℝ} {R : List (List ℝ)}
    (h : montecarlo .lognormal .normal (means.map (fun μ => List.replicate n μ)) w = some (m, sd, R)) :
    m = wmean (means.map Real.exp) w := by
  rcases mc_zero_sigma_closed_form h with ⟨-, hm⟩ | ⟨hs, -⟩
  · rw [hm]; congr 1
  · cases hs

/-- normal generators, lognormal spatial statistics: `exp(∑wᵢ·log μᵢ/∑wᵢ)` -/
theorem mc_zero_sigma_normal_lognormal {means w : List ℝ} {n : ℕ} {m sd : ℝ} {R : List (List ℝ)}
    (h : montecarlo .normal .lognormal (means.map (fun μ => List.replicate n μ)) w = some (m, sd, R)) :
    m = Real.exp (wmean (means.map Real.log) w) := by
  rcases mc_zero_sigma_closed_form h with ⟨hs, -⟩ | ⟨-, hm⟩
  · cases hs
  · rw [hm]; congr 2

/-- non-vacuity of the Monte-Carlo hypotheses: two generators, three identical draws each -/
example : ∃ m sd R, montecarlo .normal .normal ([2, 4].map (fun μ => List.replicate 3 μ)) ([1, 3] : List ℝ)
    = some (m, sd, R) := by
  simp only [montecarlo, statistics, statisticsN, mcDefined, mcPre, normWeights_real, statMean, statNumerator, statW2,
    sqDev, foldSum_real, sumA_real, ofNat_real, List.zip_cons_cons, List.map_cons, List.map_nil, List.sum_cons,
    List.sum_nil, List.zip_nil_right, List.getLast?_cons_cons, List.getLast?_singleton, List.length_replicate,
    List.map_replicate, List.sum_replicate, nsmul_eq_mul, if_true]
  rw [if_neg (by norm_num [eqA_real]), if_neg (by norm_num [eqA_real])]
  exact ⟨_, _, _, rfl⟩

/-! ## Geometry of the Voronoi weights -/

/-- "at least as close to `pi` as to `pj`" is the half-plane the clipper uses. -/
theorem closer_iff_halfplane (pi pj x : Pt ℝ) :
    dist2 x pi ≤ dist2 x pj ↔
      hpVal (bisector pi pj).1 (bisector pi pj).2.1 (bisector pi pj).2.2 x ≤ 0 := by
  rw [hpVal_bisector, sub_nonpos]

/-- Every vertex of the clipped polygon satisfies the half-plane. -/
theorem clip_sound (a b c : ℝ) (poly : List (Pt ℝ)) :
    ∀ v ∈ clipHalfPlane a b c poly, hpVal a b c v ≤ 0 :=
  fun _ hv => (clipHalfPlane_spec hv).2

/-- Every vertex of the clipped polygon lies in the convex hull of the vertices of the input
(hence satisfies every half-plane that both endpoints of a cut edge satisfy). -/
theorem clip_subset_hull (a b c : ℝ) (poly : List (Pt ℝ)) :
    ∀ v ∈ clipHalfPlane a b c poly, v ∈ _root_.convexHull ℝ {p | p ∈ poly} :=
  fun _ hv => (clipHalfPlane_spec hv).1

/-- The model cell (as a convex region) is contained in the boundary region and in the set of points
at least as close to `pi` as to every other retained sensor. -/
theorem cell_subset (hull : List (Pt ℝ)) (pi : Pt ℝ) (others : List (Pt ℝ)) :
    _root_.convexHull ℝ {v | v ∈ cell hull pi others} ⊆
      _root_.convexHull ℝ {h | h ∈ hull} ∩ {x | ∀ pj ∈ others, dist2 x pi ≤ dist2 x pj} := by
  unfold cell
  induction others generalizing hull with
  | nil => exact fun x hx => ⟨hx, fun _ h => nomatch h⟩
  | cons pj rest ih =>
    intro x hx
    obtain ⟨hxh, hxr⟩ := ih (clipBisector pi hull pj) hx
    -- the clipped polygon lies in (hull of the old one) ∩ (half-plane of `pj`), which is convex
    obtain ⟨hx1, hx2⟩ := convexHull_min (fun v hv => clipHalfPlane_spec hv)
      ((convex_convexHull ℝ _).inter (convex_halfplane _ _ _)) hxh
    exact ⟨hx1, List.forall_mem_cons.mpr ⟨(closer_iff_halfplane pi pj x).mpr hx2, hxr⟩⟩

/-- The shoelace area is invariant under translation. -/
theorem area_translate (t : Pt ℝ) (poly : List (Pt ℝ)) :
    shoelace (poly.map (trPt t)) = shoelace poly := by
  rw [trPt_eq, shoelace_affPt, one_pow, one_mul]

/-- The shoelace area scales with `s²` under uniform scaling. -/
theorem area_scale (s : ℝ) (poly : List (Pt ℝ)) :
    shoelace (poly.map (scPt s)) = s ^ 2 * shoelace poly := by
  rw [scPt_eq, shoelace_affPt]

/-- Cells move with the layout under translation … -/
theorem cell_translate (t pi : Pt ℝ) (hull others : List (Pt ℝ)) :
    cell (hull.map (trPt t)) (trPt t pi) (others.map (trPt t)) = (cell hull pi others).map (trPt t) :=
  (sim_trPt t).cell pi hull others

/-- … and under uniform scaling. -/
theorem cell_scale (s : ℝ) (hs : 0 < s) (pi : Pt ℝ) (hull others : List (Pt ℝ)) :
    cell (hull.map (scPt s)) (scPt s pi) (others.map (scPt s)) = (cell hull pi others).map (scPt s) :=
  (sim_scPt s hs).cell pi hull others

/-- Retained indices and weights (and the error cases) are independent of a translation of sensors
and boundary. -/
theorem weights_translate (t : Pt ℝ) (coords boundary : List (Pt ℝ)) :
    (voronoiWeights (coords.map (trPt t)) (boundary.map (trPt t))).map (fun o => (o.indices, o.weights)) =
    (voronoiWeights coords boundary).map (fun o => (o.indices, o.weights)) :=
  (sim_trPt t).voronoiWeights coords boundary

/-- Retained indices and weights are independent of a uniform scaling `s > 0` of sensors and boundary. -/
theorem weights_scale (s : ℝ) (hs : 0 < s) (coords boundary : List (Pt ℝ)) :
    (voronoiWeights (coords.map (scPt s)) (boundary.map (scPt s))).map (fun o => (o.indices, o.weights)) =
    (voronoiWeights coords boundary).map (fun o => (o.indices, o.weights)) :=
  (sim_scPt s hs).voronoiWeights coords boundary

/-- Sensors outside the boundary (or on it) are dropped and the returned indices identify the
retained ones: `i` is returned iff sensor `i` is strictly inside every edge of the hull; indices are
increasing; there is one weight per index; at least three sensors are retained (fewer: Qhull refuses, the model
returns an error). -/
theorem retained_indices_spec {coords boundary : List (Pt ℝ)} {o : VoronoiOut ℝ}
    (h : voronoiWeights coords boundary = .ok o) :
    (∀ i, i ∈ o.indices ↔ ∃ p, coords[i]? = some p ∧ ∀ e ∈ edges o.hull, 0 < cross e.1 e.2 p) ∧
    o.indices.Pairwise (· < ·) ∧ o.weights.length = o.indices.length ∧ 3 ≤ o.indices.length := by
  obtain ⟨hh, hi, hc, hw, h3, -⟩ := voronoiWeights_ok h
  refine ⟨fun i => ?_, hi ▸ cull_indices_sorted _ _, ?_, ?_⟩
  · simp only [hi, hh, List.mem_map, Prod.exists, mem_cull_iff, insideStrict_iff, exists_eq_right]
  · simp only [hw, hc, hi, boundedCells, List.length_map, List.length_zipIdx]
  · rwa [hi, List.length_map]

/-- PARTIAL (what is proved of "the weight of sensor `k` is the fraction of the boundary region that
is closer to it than to any other retained sensor; weights are non-negative and sum to one"):
the `k`-th weight is `area(cellₖ)/area(hull)` where `cellₖ` is a polygon contained in the hull and in
the nearest-sensor region of the `k`-th retained sensor.

MISSING: `cellₖ` ⊇ region (completeness of the Sutherland–Hodgman clipping for convex input), from
which `0 ≤ weight` and `∑ weights = 1` would follow by additivity of polygon area; and that
`convexHull` (monotone chain) returns the vertices of the convex hull of the boundary points in
counter-clockwise order. The harness checks `∑ w = 1` and `w ≥ 0` exactly in `ℚ` on every layout —
since the cells have disjoint interiors (they lie in different nearest-sensor regions), `∑ = 1`
with `cell ⊆ region` forces `cell = region` up to a null set for that layout. -/
theorem voronoi_partition_partial {coords boundary : List (Pt ℝ)} {o : VoronoiOut ℝ}
    (h : voronoiWeights coords boundary = .ok o) (k : ℕ) (p : Pt ℝ)
    (hp : ((cull o.hull coords).map (fun x => x.1))[k]? = some p) :
    ∃ c, o.cells[k]? = some c ∧ o.weights[k]? = some (shoelace c / shoelace o.hull) ∧
      _root_.convexHull ℝ {v | v ∈ c} ⊆ _root_.convexHull ℝ {q | q ∈ o.hull} ∩
        {x | ∀ pj ∈ ((cull o.hull coords).map (fun x => x.1)).eraseIdx k, dist2 x p ≤ dist2 x pj} := by
  obtain ⟨hh, -, hc, hw, -, -⟩ := voronoiWeights_ok h
  rw [hh] at hp ⊢
  refine ⟨_, ?_, ?_, cell_subset _ _ _⟩
  · rw [hc, boundedCells_getElem?, hp]; rfl
  · rw [hw, List.getElem?_map, hc, boundedCells_getElem?, hp]; rfl

/-- non-vacuity of the geometric statements: the square `[0,2]²` and the sensors `(½,1)`, `(3/2,1)`;
the cell of the first sensor is the left half (area 2 of 4). -/
example : shoelace (cell [(0, 0), (2, 0), (2, 2), (0, 2)] ((1/2 : ℝ), (1 : ℝ)) [((3/2 : ℝ), (1 : ℝ))]) = 2 := by
  have hb : bisector ((1 / 2 : ℝ), (1 : ℝ)) ((3 / 2 : ℝ), (1 : ℝ)) = (2, 0, 2) := by
    simp only [bisector, ofNat_real]; norm_num
  simp only [cell, List.foldl_cons, List.foldl_nil, clipBisector, hb, clipHalfPlane, edges, List.tail_cons,
    List.take_succ_cons, List.take_zero, List.cons_append, List.nil_append, List.zip_cons_cons, List.zip_nil_right,
    List.flatMap_cons, List.flatMap_nil, clipEdge, hpVal_real, interPt, ofNat_real]
  norm_num [shoelace, shoelaceAux]

end HV.C14
