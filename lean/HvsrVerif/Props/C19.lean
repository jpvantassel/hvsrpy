import HvsrVerif.Proofs.CliLemmas
/-!
# C19 — Command-line batch output equals the library pipeline for each file

The model (`Model/Cli.lean`) mirrors `hvsrpy/cli.py` and
`nextpow2`/`prepare_fft_settings` of `hvsrpy/processing.py`.

The only state a task writes into the settings object is the FFT length. With a fresh copy of the
settings per task (`Mode.fresh`, the tree under verification) every file of every batch gets the
stand-alone result, for every list of chunks, hence for every order, `--nproc` and assignment to
workers; with the object shared inside a chunk (`Mode.shared`, the code before the repair of finding
C19-a) the property fails.

Not covered by a theorem (trusted, checked by differential execution in harness/c19.py): which
OS process runs which chunk, pickling, the CPython `Pool` implementation, and that the CSV
content is a function of (file, FFT length) only.
-/
namespace HV.C19
open HV.Cli

/-! ## `nextpow2` -/

/-- `nextpow2 n min` returns `min·2^k`, the result exceeds `n`, and it is the smallest such
number (`k` is minimal; stated for the exponent and for the value). -/
theorem nextpow2_spec (n min : Nat) (hmin : 0 < min) :
    ∃ k, nextpow2 n min hmin = min * 2 ^ k ∧ n < nextpow2 n min hmin ∧
      (∀ j, n < min * 2 ^ j → k ≤ j) ∧ ∀ j, n < min * 2 ^ j → nextpow2 n min hmin ≤ min * 2 ^ j := by
  obtain ⟨k, hk, hlt, hmin'⟩ := nextpow2Loop_spec n min hmin
  rw [nextpow2, hk]
  exact ⟨k, rfl, hlt, hmin', fun j hj => Nat.mul_le_mul_left _ (Nat.pow_le_pow_right Nat.two_pos (hmin' j hj))⟩

/-- the default `nextpow2(n)` is a power of two, at least `2^15`, and exceeds `n` -/
theorem nextpow2_default (n : Nat) : ∃ k, nextpow2 n = 2 ^ (15 + k) ∧ n < nextpow2 n := by
  obtain ⟨k, hk, hlt, _⟩ := nextpow2_spec n (2 ^ 15) (by decide)
  exact ⟨k, by rw [hk, Nat.pow_add], hlt⟩

/-! ## `prepare_fft_settings` -/

theorem goodN_gt (maxN : Nat) : maxN < goodN maxN :=
  let ⟨_, _, h⟩ := nextpow2_default maxN; h

theorem prepareFft_n (user maxN : Nat) : prepareFft (.n user) maxN = .n (max (goodN maxN) user) := by
  show FftState.n (if goodN maxN > user then goodN maxN else user) = _
  split
  · rw [Nat.max_eq_left (Nat.le_of_lt ‹_›)]
  · rw [Nat.max_eq_right (Nat.not_lt.1 ‹_›)]

theorem prepareFft_noKey (maxN : Nat) : prepareFft .noKey maxN = .n (goodN maxN) :=
  congrArg FftState.n (if_pos (goodN_gt maxN))

/-- zero padding, never truncation: after `prepare_fft_settings` the settings hold an FFT length
that is at least the longest record, whatever they held before (all four branches) -/
theorem prepareFft_ge (s : FftState) (maxN : Nat) : ∃ k, prepareFft s maxN = .n k ∧ maxN ≤ k := by
  have h := Nat.le_of_lt (goodN_gt maxN)
  cases s with
  | unset => exact ⟨_, rfl, h⟩
  | noKey => exact ⟨_, prepareFft_noKey maxN, h⟩
  | nNone => exact ⟨_, rfl, Nat.le_refl _⟩
  | n user => exact ⟨_, prepareFft_n user maxN, Nat.le_trans h (Nat.le_max_left _ _)⟩

/-- a length requested by the user is never reduced either -/
theorem prepareFft_ge_user (user maxN : Nat) : ∃ k, prepareFft (.n user) maxN = .n k ∧ user ≤ k :=
  ⟨_, prepareFft_n user maxN, Nat.le_max_right _ _⟩

/-- A second `prepare_fft_settings` with the same records changes nothing **iff** the stored state
is not `{"n": None}`.  From `{"n": None}` the first call stores `maxN`, the second
`nextpow2 maxN > maxN` (finding C09-c). -/
theorem prepareFft_idem_iff (s : FftState) (maxN : Nat) :
    prepareFft (prepareFft s maxN) maxN = prepareFft s maxN ↔ s ≠ .nNone := by
  -- a stored length is kept exactly when it is at least `nextpow2` of the longest record
  have key : ∀ k, prepareFft (.n k) maxN = .n k ↔ goodN maxN ≤ k := fun k => by
    rw [prepareFft_n, FftState.n.injEq]
    exact ⟨fun e => e ▸ Nat.le_max_left _ _, Nat.max_eq_right⟩
  cases s with
  | unset => exact iff_of_true ((key _).2 (Nat.le_refl _)) nofun
  | noKey => rw [prepareFft_noKey]; exact iff_of_true ((key _).2 (Nat.le_refl _)) nofun
  | nNone => exact iff_of_false (fun e => Nat.not_le_of_gt (goodN_gt maxN) ((key _).1 e)) (fun e => e rfl)
  | n user => rw [prepareFft_n]; exact iff_of_true ((key _).2 (Nat.le_max_left _ _)) nofun

/-- consequently the number of `prepare_fft_settings` calls inside one task (`reps ≥ 1`) does not
matter unless the loaded state is `{"n": None}` -/
theorem runTask_of_ne_nNone (s : FftState) (file : File) (hs : s ≠ .nNone) (reps : Nat) :
    runTask (reps + 1) s file = prepareFft s file :=
  iter_fixed ((prepareFft_idem_iff s file).2 hs) reps

/-! ## batches -/

variable {β : Type}

/-- **Batch output equals the stand-alone result.**  If every task starts from a fresh copy of
the settings, then for ALL lists of chunks — i.e. all batches, all orders of the files, all
`nproc` and the chunking they induce, all assignments of chunks to workers (a chunk's result
does not depend on where and when it runs: it starts from an unpickled copy of the loaded,
never modified settings) — the output written for each file is `alone file`. -/
theorem batch_eq_alone (reps : Nat) (loaded : FftState) (out : Option Nat → File → β)
    (chunkList : List (List File)) :
    runBatch .fresh reps loaded out chunkList = chunkList.map (List.map (alone reps loaded out)) :=
  List.map_congr_left fun c _ => runChunk_fresh reps out loaded c

/-- the same for every assignment of the chunks to worker processes and every execution order -/
theorem schedule_eq_alone (reps : Nat) (loaded : FftState) (out : Option Nat → File → β)
    (schedule : List (List (List File))) :
    runSchedule .fresh reps loaded out schedule
      = schedule.map (List.map (List.map (alone reps loaded out))) :=
  List.map_congr_left fun c _ => batch_eq_alone reps loaded out c

/-! ## chunks -/

/-- every chunk except possibly the last is a full slice: chunk `i` is
`tasks[i·size : (i+1)·size]` (what `Pool._get_tasks` yields) -/
theorem chunksOf_slice {γ : Type} (size : Nat) (hs : 0 < size) (l : List γ) (i : Nat) :
    (chunksOf size l)[i]? = if i * size < l.length then some ((l.drop (i * size)).take size) else none := by
  fun_induction chunksOf size l generalizing i with
  | case1 l h =>
    rw [h.resolve_right (Nat.ne_of_gt hs), List.getElem?_nil, List.length_nil, if_neg (Nat.not_lt_zero _)]
  | case2 l h ih =>
    have hl : 0 < l.length := List.length_pos_iff.2 (not_or.1 h).1
    cases i with
    | zero => rw [List.getElem?_cons_zero, Nat.zero_mul, if_pos hl, List.drop_zero]
    | succ i =>
      rw [List.getElem?_cons_succ, ih, List.length_drop, List.drop_drop, Nat.succ_mul, Nat.add_comm size]
      exact ite_congr (propext Nat.lt_sub_iff_add_lt) (fun _ => rfl) (fun _ => rfl)

/-- The chunks handed to the workers concatenate to the task list (order preserved, nothing lost
or duplicated), none is empty and each has at most `chunksize = max 1 (ntasks / nproc)` tasks. -/
theorem chunks_partition {γ : Type} (tasks : List γ) (nproc : Nat) :
    (chunks tasks nproc).flatten = tasks ∧
      ∀ c ∈ chunks tasks nproc, c ≠ [] ∧ c.length ≤ chunkSize tasks.length nproc :=
  chunksOf_partition _ (by unfold chunkSize; omega) tasks

/-- with `nproc ≥ ntasks` every file is a chunk of its own (`chunksize = 1`) -/
theorem chunks_singletons {γ : Type} (tasks : List γ) (nproc : Nat) (h : tasks.length < 2 * nproc ∨ nproc = 0) :
    ∀ c ∈ chunks tasks nproc, c.length = 1 := by
  intro c hc
  obtain ⟨h1, h2⟩ := (chunks_partition tasks nproc).2 c hc
  have hq : tasks.length / nproc ≤ 1 := by
    rcases h with h | h
    · exact Nat.le_of_lt_succ (Nat.div_lt_of_lt_mul (by omega))
    · rw [h, Nat.div_zero]; exact Nat.zero_le 1
  rw [chunkSize, Nat.max_eq_left hq] at h2
  exact Nat.le_antisymm h2 (List.length_pos_iff.2 h1)

/-! ## the command line interface -/

/-- the property in closed form: refused without files or processes, otherwise every file is paired with
its stand-alone result -/
theorem cliBatch_fresh (reps : Nat) (loaded : FftState) (out : Option Nat → File → β)
    (tasks : List File) (nproc : Nat) :
    cliBatch .fresh reps loaded out tasks nproc = if tasks.length = 0 ∨ nproc = 0 then .error "ValueError"
      else .ok (tasks.map fun f => (f, alone reps loaded out f)) := by
  -- the chunks' results, flattened, are `tasks.map alone`; zipping `tasks` with that pairs each file with its result
  rw [cliBatch, batch_eq_alone, ← List.map_flatten, (chunks_partition tasks nproc).1,
    ← List.zip_map' (f := fun f => f), List.map_id']

theorem cli_eq_alone (reps : Nat) (loaded : FftState) (out : Option Nat → File → β)
    (tasks : List File) (nproc : Nat) (ht : tasks ≠ []) (hn : 0 < nproc) :
    cliBatch .fresh reps loaded out tasks nproc = .ok (tasks.map fun f => (f, alone reps loaded out f)) := by
  rw [cliBatch_fresh, if_neg]
  exact not_or.2 ⟨fun e => ht (List.length_eq_zero_iff.1 e), Nat.ne_of_gt hn⟩

/-- The output for a file does not depend on which other files are in the batch, on their order,
or on the number of worker processes: in any two runs (batches `tasks`, `tasks'` — arbitrary,
e.g. permutations or sub-batches of one another — and `nproc`, `nproc'`), a file occurring in both
gets the same output, namely `alone file`. -/
theorem cli_independent (reps : Nat) (loaded : FftState) (out : Option Nat → File → β)
    (tasks tasks' : List File) (nproc nproc' : Nat) (r r' : List (File × β))
    (h : cliBatch .fresh reps loaded out tasks nproc = .ok r)
    (h' : cliBatch .fresh reps loaded out tasks' nproc' = .ok r') :
    (∀ p ∈ r, p.2 = alone reps loaded out p.1) ∧ (∀ p ∈ r', p.2 = alone reps loaded out p.1) ∧
    (∀ p ∈ r, ∀ p' ∈ r', p.1 = p'.1 → p.2 = p'.2) ∧ r.map Prod.fst = tasks ∧ r'.map Prod.fst = tasks' := by
  -- an accepted batch lists its files in order, each paired with its stand-alone result
  have key : ∀ {ts : List File} {n : Nat} {r : List (File × β)}, cliBatch .fresh reps loaded out ts n = .ok r →
      (∀ p ∈ r, p.2 = alone reps loaded out p.1) ∧ r.map Prod.fst = ts := fun {ts n r} h => by
    rw [cliBatch_fresh] at h
    split at h <;> cases h
    refine ⟨fun p hp => ?_, ?_⟩
    · obtain ⟨f, _, rfl⟩ := List.mem_map.1 hp; rfl
    · rw [List.map_map]; exact List.map_id' ts
  obtain ⟨m, f⟩ := key h
  obtain ⟨m', f'⟩ := key h'
  exact ⟨m, m', fun p hp p' hp' e => by rw [m p hp, m' p' hp', e], f, f'⟩

/-- reordering the command line permutes the (file, output) pairs and nothing else -/
theorem cli_perm (reps : Nat) (loaded : FftState) (out : Option Nat → File → β)
    (tasks tasks' : List File) (nproc nproc' : Nat) (hp : tasks.Perm tasks') (ht : tasks ≠ [])
    (hn : 0 < nproc) (hn' : 0 < nproc') :
    ∃ r r', cliBatch .fresh reps loaded out tasks nproc = .ok r ∧
      cliBatch .fresh reps loaded out tasks' nproc' = .ok r' ∧ r.Perm r' := by
  have ht' : tasks' ≠ [] := fun e => ht (by subst e; exact hp.eq_nil)
  exact ⟨_, _, cli_eq_alone reps loaded out tasks nproc ht hn,
    cli_eq_alone reps loaded out tasks' nproc' ht' hn', hp.map _⟩

/-- `Pool(min(ntasks, nproc))` refuses an empty batch and `nproc < 1` -/
theorem cli_refuses (mode : Mode) (reps : Nat) (loaded : FftState) (out : Option Nat → File → β)
    (tasks : List File) (nproc : Nat) (h : tasks = [] ∨ nproc = 0) :
    cliBatch mode reps loaded out tasks nproc = .error "ValueError" :=
  if_pos (h.imp (congrArg List.length) id)

/-! ## the code before the repair (finding C19-a) -/

/-- With the settings object shared by the tasks of a chunk there are files `a, b`
(`nextpow2 |a| > nextpow2 |b| ≥ 2^15`: 100 s windows at 500 Hz and at 100 Hz) for which the chunk
`[a, b]` does not produce the stand-alone results: `b` inherits the FFT length of `a`. -/
theorem shared_chunk_counterexample :
    ∃ a b : File, 2 ^ 15 ≤ goodN b ∧ goodN b < goodN a ∧
      runChunk .shared 1 (fun n _ => n) .unset [a, b]
        ≠ [alone 1 .unset (fun n _ => n) a, alone 1 .unset (fun n _ => n) b] ∧
      runChunk .shared 1 (fun n _ => n) .unset [a, b] = [some 65536, some 65536] ∧
      runChunk .fresh 1 (fun n _ => n) .unset [a, b] = [some 65536, some 32768] := by
  refine ⟨50001, 10001, ?_, ?_, ?_, ?_, ?_⟩
  · rw [goodN_10001]; decide
  · rw [goodN_10001, goodN_50001]; decide
  · simp [runChunk, alone, runTask, iter, prepareFft, FftState.len, goodN_10001, goodN_50001]
  · simp [runChunk, runTask, iter, prepareFft, FftState.len, goodN_10001, goodN_50001]
  · simp [runChunk, runTask, iter, prepareFft, FftState.len, goodN_10001, goodN_50001]

/-- in the other order (`b` first) the shared object does no harm: the defect depends on the
order of the files and, through the chunking, on `--nproc` -/
theorem shared_chunk_order_dependent :
    runChunk .shared 1 (fun n _ => n) .unset [10001, 50001] = [some 32768, some 65536] ∧
    runBatch .shared 1 .unset (fun n _ => n) (chunks [50001, 10001] 2) = [[some 65536], [some 32768]] ∧
    runBatch .shared 1 .unset (fun n _ => n) (chunks [50001, 10001] 1) = [[some 65536, some 65536]] := by
  refine ⟨?_, ?_, ?_⟩
  · simp [runChunk, runTask, iter, prepareFft, FftState.len, goodN_10001, goodN_50001]
  · simp [runBatch, chunks, chunkSize, chunksOf_cons, chunksOf_nil, runChunk, runTask, iter, prepareFft,
      FftState.len, goodN_10001, goodN_50001]
  · simp [runBatch, chunks, chunkSize, chunksOf_cons, chunksOf_nil, runChunk, runTask, iter, prepareFft,
      FftState.len, goodN_10001, goodN_50001]

/-! ## non-vacuity -/

/-- hypotheses of `cli_eq_alone`/`cli_perm` on a concrete batch of three files, two orders, two `nproc` -/
example : ∃ r r', cliBatch .fresh 1 .unset (fun n f => (n, f)) [50001, 10001, 25001] 1 = .ok r ∧
    cliBatch .fresh 1 .unset (fun n f => (n, f)) [10001, 25001, 50001] 3 = .ok r' ∧ r.Perm r' :=
  cli_perm 1 .unset _ _ _ 1 3 (by decide) (by decide) (by decide) (by decide)

/-- the chunking of five tasks over two processes: `chunksize = 2`, three chunks -/
example : chunks [1, 2, 3, 4, 5] 2 = [[1, 2], [3, 4], [5]] := by
  simp [chunks, chunkSize, chunksOf_cons, chunksOf_nil]

/-- more processes than tasks: `chunksize = max 1 0 = 1` -/
example : chunks [7, 8] 3 = [[7], [8]] := by
  simp [chunks, chunkSize, chunksOf_cons, chunksOf_nil]

/-- `prepareFft_idem_iff`, both directions on concrete data (`{"n": None}`: 300 → 32768, finding C09-c) -/
example : prepareFft .nNone 300 = .n 300 ∧ prepareFft (.n 300) 300 = .n 32768 := by
  have h : goodN 300 = 32768 := goodN_of_lt (by decide)
  simp [prepareFft, h]

example : prepareFft .unset 50001 = .n 65536 ∧ prepareFft (.n 65536) 50001 = .n 65536 := by
  simp [prepareFft, goodN_50001]

/-- a user length below the record length is replaced, one above the next power of two is kept -/
example : prepareFft (.n 1024) 50001 = .n 65536 ∧ prepareFft (.n 100000) 50001 = .n 100000 := by
  simp [prepareFft, goodN_50001]

end HV.C19
