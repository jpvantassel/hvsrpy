import HvsrVerif.Props.C05
import HvsrVerif.Proofs.PlotsLemmas
/-!
# C20 — Plots and summary tables are read-only and show the object's state

Model: `Model/Plots.lean` (on top of `Model/HvState.lean`, `Model/HvAz.lean`, `Model/Stats.lean`).
matplotlib / pandas are trusted to store what they are given; an axes is the list of its artists.
`panelLines o s`, `panelLinesAz o s`, `panelLinesDiffuse o f a` are by definition `panelLinesOf o hs st` at
`[s], tradStats s` / `s.hvsrs, azStats s` / `[], diffuseStats f a`: the lemmas of `Proofs/PlotsLemmas.lean` about
`panelLinesOf` are applied to hypotheses about the three as they stand.
-/
namespace HV.C20

/-- the artist that carries window `r` in style `c` -/
def windowLine (c : StyleClass) (freq r : List ℝ) : Line ℝ := { style := c, x := freq.map some, y := r.map some }

theorem individualLines_eq (v : Bool) :
    individualLines v = fun s : HvTrad ℝ =>
      maskSel (s.rows.map (windowLine (curveStyle v) s.freq)) (if v then s.vWin else notMask s.vWin) := by
  funext s
  cases v <;> simp only [individualLines, curveLines, maskSel_map] <;> rfl

/-- **One accepted-style line per accepted window and one rejected-style line per rejected window, each
carrying that window's curve, in window order** (traditional object, every option combination, whenever the
panel is drawn).  The accepted-style artists are exactly the sub-list, at the accepted positions of the window
mask, of the list "window `i` ↦ (frequency, row `i`)"; likewise the rejected-style artists at the rejected
positions; an option that is switched off removes the class entirely. -/
theorem lines_partition (o : PanelOpts) (s : HvTrad ℝ) (ls : List (Line ℝ)) (h : panelLines o s = .ok ls) :
    ls.filter (fun l => decide (l.style = .acceptedCurve)) =
      (if o.validCurves then maskSel (s.rows.map (windowLine .acceptedCurve s.freq)) s.vWin else []) ∧
    ls.filter (fun l => decide (l.style = .rejectedCurve)) =
      (if o.invalidCurves then maskSel (s.rows.map (windowLine .rejectedCurve s.freq)) (notMask s.vWin) else []) := by
  have := panel_curves h
  simp only [individualLines_eq, List.flatMap_cons, List.flatMap_nil, List.append_nil] at this
  exact ⟨this true, this false⟩

/-- the counts: #accepted-style lines = #accepted windows, #rejected-style lines = #rejected windows -/
theorem lines_count (o : PanelOpts) (s : HvTrad ℝ) (ls : List (Line ℝ)) (h : panelLines o s = .ok ls)
    (hlen : s.vWin.length = s.rows.length) :
    (o.validCurves = true → (ls.filter (fun l => decide (l.style = .acceptedCurve))).length = countTrue s.vWin) ∧
    (o.invalidCurves = true →
      (ls.filter (fun l => decide (l.style = .rejectedCurve))).length = s.rows.length - countTrue s.vWin) := by
  obtain ⟨h1, h2⟩ := lines_partition o s ls h
  constructor
  · intro hv
    rw [h1, if_pos hv, maskSel_length _ _ (by rw [List.length_map]; exact hlen)]
  · intro hv
    rw [h2, if_pos hv, maskSel_length _ _ (by rw [notMask, List.length_map, List.length_map]; exact hlen), ← hlen]
    exact Nat.eq_sub_of_add_eq' (countTrue_add_notMask s.vWin)

/-- azimuthal object: the accepted-style and rejected-style artists are those of the azimuths, azimuth by azimuth -/
theorem lines_partition_az (o : PanelOpts) (s : HvAz ℝ) (ls : List (Line ℝ)) (h : panelLinesAz o s = .ok ls) :
    ls.filter (fun l => decide (l.style = .acceptedCurve)) =
      (if o.validCurves then s.hvsrs.flatMap (fun a => maskSel (a.rows.map (windowLine .acceptedCurve a.freq)) a.vWin) else []) ∧
    ls.filter (fun l => decide (l.style = .rejectedCurve)) =
      (if o.invalidCurves then
        s.hvsrs.flatMap (fun a => maskSel (a.rows.map (windowLine .rejectedCurve a.freq)) (notMask a.vWin)) else []) := by
  have := panel_curves h
  simp only [individualLines_eq] at this
  exact ⟨this true, this false⟩

/-- **The mean, ±1 standard-deviation curves, the fn band and the peak markers are the object's statistics.**
Whenever the panel of a traditional object is drawn: the artists of the four statistics styles are, in order,
the mean curve `mean_curve(d_mc)`, `nth_std_curve(±1, d_mc)`, the band `[fn−, fn−, fn+, fn+]` with
`fn± = nth_std_fn_frequency(±1, d_fn)` and the marker at `mean_curve_peak(d_mc)`; the individual peak markers
hold the stored peaks at the positions of the peak mask (`peakMarkerLines`). -/
theorem stat_artists (o : PanelOpts) (s : HvTrad ℝ) (ls : List (Line ℝ)) (h : panelLines o s = .ok ls) :
    (o.meanCurve = true → ∃ sc, s.stdCurve o.dMc = .ok sc ∧
      ls.filter (fun l => decide (l.style = .meanCurve)) =
        [{ style := .meanCurve, x := s.freq.map some, y := s.meanCurve o.dMc }] ∧
      ls.filter (fun l => decide (l.style = .stdCurve)) =
        [{ style := .stdCurve, x := s.freq.map some, y := nthCurve 1 o.dMc (s.meanCurve o.dMc) sc },
         { style := .stdCurve, x := s.freq.map some, y := nthCurve (-1) o.dMc (s.meanCurve o.dMc) sc }]) ∧
    (o.freqStd = true → ls.filter (fun l => decide (l.style = .fnBand)) =
        [{ style := .fnBand,
           x := [s.nthStdFn (-1) o.dFn, s.nthStdFn (-1) o.dFn, s.nthStdFn 1 o.dFn, s.nthStdFn 1 o.dFn],
           y := [some 0, some 100, some 100, some 0] }]) ∧
    (o.peakMean = true → ∃ p, s.meanCurvePeak o.dMc = .ok p ∧
      ls.filter (fun l => decide (l.style = .peakMeanCurve)) =
        [{ style := .peakMeanCurve, x := [some p.1], y := [some p.2] }]) ∧
    ls.filter (fun l => decide (l.style = .peakIndividualValid)) =
      (if o.peakValid then peakMarkerLines true s else []) ∧
    ls.filter (fun l => decide (l.style = .peakIndividualInvalid)) =
      (if o.peakInvalid then peakMarkerLines false s else []) := by
  obtain ⟨g1, g2, g3, p⟩ := stat_artists_of h rfl
  simp only [List.flatMap_cons, List.flatMap_nil, List.append_nil] at p
  refine ⟨fun hm => ?_, fun hf => ?_, g3, p⟩
  · obtain ⟨_, sc, hmc, hsc, e⟩ := g1 hm
    cases hmc
    exact ⟨sc, hsc, e⟩
  · obtain ⟨_, _, hlo, hhi, e⟩ := g2 hf
    cases hlo; cases hhi
    exact e

/-- … and for an azimuthal object the same artists hold the Cheng et al. statistics of `Model/HvAz.lean` (C11):
weighted mean / std curves, the band from the weighted `fn` statistics, the peak of the weighted mean curve;
the individual peak markers are drawn azimuth by azimuth. -/
theorem stat_artists_az (o : PanelOpts) (s : HvAz ℝ) (ls : List (Line ℝ)) (h : panelLinesAz o s = .ok ls) :
    (o.meanCurve = true → ∃ mc sc, s.meanCurve o.dMc = .ok mc ∧ s.stdCurve o.dMc = .ok sc ∧
      ls.filter (fun l => decide (l.style = .meanCurve)) =
        [{ style := .meanCurve, x := s.freq.map some, y := mc }] ∧
      ls.filter (fun l => decide (l.style = .stdCurve)) =
        [{ style := .stdCurve, x := s.freq.map some, y := nthCurve 1 o.dMc mc sc },
         { style := .stdCurve, x := s.freq.map some, y := nthCurve (-1) o.dMc mc sc }]) ∧
    (o.freqStd = true → ∃ lo hi, s.nthStdFn (-1) o.dFn = .ok lo ∧ s.nthStdFn 1 o.dFn = .ok hi ∧
      ls.filter (fun l => decide (l.style = .fnBand)) =
        [{ style := .fnBand, x := [lo, lo, hi, hi], y := [some 0, some 100, some 100, some 0] }]) ∧
    (o.peakMean = true → ∃ p, s.meanCurvePeak o.dMc = .ok p ∧
      ls.filter (fun l => decide (l.style = .peakMeanCurve)) =
        [{ style := .peakMeanCurve, x := [some p.1], y := [some p.2] }]) ∧
    ls.filter (fun l => decide (l.style = .peakIndividualValid)) =
      (if o.peakValid then s.hvsrs.flatMap (peakMarkerLines true) else []) ∧
    ls.filter (fun l => decide (l.style = .peakIndividualInvalid)) =
      (if o.peakInvalid then s.hvsrs.flatMap (peakMarkerLines false) else []) :=
  stat_artists_of h rfl

/-- a diffuse-field object: the panel shows the curve itself as the mean curve and its peak, nothing else -/
theorem panel_diffuse (o : PanelOpts) (freq amp : List ℝ) (ls : List (Line ℝ))
    (h : panelLinesDiffuse o freq amp = .ok ls) :
    ls = (if o.meanCurve then [{ style := .meanCurve, x := freq.map some, y := amp.map some }] else []) ++
         (if o.peakMean then
            match findPeakBounded freq amp (none, none) with
            | some p => [{ style := .peakMeanCurve, x := [some p.1], y := [some p.2] }]
            | none => []
          else []) := by
  obtain ⟨l3, l4, l5, h3, h4, h5, rfl⟩ := panelLinesOf_ok h
  obtain rfl : l4 = [] := by
    rcases fnBandLines_ok h4 with ⟨_, rfl⟩ | ⟨hc, _⟩
    · rfl
    · simp [diffuseStats] at hc
  simp only [List.flatMap_nil, ite_self, List.nil_append, List.append_nil]
  congr 1
  · rcases meanStdLines_ok h3 with ⟨hm, rfl⟩ | ⟨hm, mc, hmc, ⟨_, rfl⟩ | ⟨hd, _⟩⟩
    · simp [hm]
    · cases hmc; simp [hm, diffuseStats]
    · cases hd
  · rcases peakMeanLines_ok h5 with ⟨hp, rfl⟩ | ⟨hp, p, hpk, rfl⟩
    · simp [hp]
    · cases hq : findPeakBounded freq amp (none, none) <;> simp only [diffuseStats, hq] at hpk
      · cases hpk
      · cases hpk; simp [hp]

/-! ### Read-only -/

/-- a panel (any plotting callee) that hands the object back as it received it -/
def ReadOnly {β : Type} (p : Panel ℝ β) : Prop := ∀ s, (p s).1 = s

/-- with a read-only first panel the `finally` step hands the second panel the original object -/
theorem prePost_eq {β : Type} (p1 p2 : Panel ℝ β) (h1 : ReadOnly p1) (s : HvTrad ℝ) :
    prePostRejectionWith p1 p2 s =
      match (p1 (ppSetAll (ppSave s)).obj).2 with
      | .error e => (s, .raisedFirst e)
      | .ok l1 =>
        match (p2 s).2 with
        | .error e => ((p2 s).1, .raisedSecond e)
        | .ok l2 => ((p2 s).1, .normal l1 l2) := by
  have hrest : (ppRestore { ppSetAll (ppSave s) with obj := (p1 (ppSetAll (ppSave s)).obj).1 }).obj = s := by
    rw [h1]; exact restore_setAll_save s
  unfold prePostRejectionWith
  simp only [hrest]
  cases (p1 (ppSetAll (ppSave s)).obj).2 with
  | error e => rfl
  | ok l1 => cases (p2 s).2 <;> rfl

/-- **`prepost_restores`.** With read-only panels the object that `plot_pre_and_post_rejection` leaves behind is the
object it was given — every field, both masks — on *every* exit: normal, exception in the second panel, and
exception in the first panel (the masks are all-`True` at that moment; the `finally` step restores them). -/
theorem prepost_restores {β : Type} (p1 p2 : Panel ℝ β) (h1 : ReadOnly p1) (h2 : ReadOnly p2) (s : HvTrad ℝ) :
    (prePostRejectionWith p1 p2 s).1 = s := by
  rw [prePost_eq p1 p2 h1]
  split
  · rfl
  · split <;> exact h2 s

/-- the exceptional exit of the first panel, spelled out: the exception propagates and the object is the original -/
theorem prepost_restores_on_raise {β : Type} (p1 p2 : Panel ℝ β) (h1 : ReadOnly p1) (s : HvTrad ℝ) (e : String)
    (hr : (p1 (ppSetAll (ppSave s)).obj).2 = .error e) :
    prePostRejectionWith p1 p2 s = (s, .raisedFirst e) := by
  rw [prePost_eq p1 p2 h1, hr]

/-- the mask restore does not depend on the first panel being well behaved: for *any* first panel that raises,
both masks on exit are the initial ones -/
theorem prepost_masks_restored_on_raise {β : Type} (p1 p2 : Panel ℝ β) (s : HvTrad ℝ) (e : String)
    (hr : (p1 (ppSetAll (ppSave s)).obj).2 = .error e) :
    (prePostRejectionWith p1 p2 s).1.vWin = s.vWin ∧ (prePostRejectionWith p1 p2 s).1.vPeak = s.vPeak := by
  unfold prePostRejectionWith
  simp only
  rw [hr]
  exact ⟨rfl, rfl⟩

/-- on the normal exit the "before" panel shows the object with every window accepted and the "after" panel
shows the object itself — the temporary all-`True` masks are visible to the first panel only -/
theorem prepost_panels (dMc dFn : Dist) (s : HvTrad ℝ) (pre post : List (Line ℝ))
    (h : (plotPreAndPostRejection dMc dFn s).2 = .normal pre post) :
    panelLines (PanelOpts.pre dMc dFn)
      { s with vWin := s.vWin.map (fun _ => true), vPeak := s.vPeak.map (fun _ => true) } = .ok pre ∧
    panelLines (PanelOpts.post dMc dFn) s = .ok post := by
  rw [plotPreAndPostRejection, prePost_eq _ _ (fun _ => rfl)] at h
  split at h
  · cases h
  · rename_i l1 h1
    split at h
    · cases h
    · rename_i l2 h2
      cases h
      exact ⟨h1, h2⟩

/-- **`plot_readonly`.** Every modelled plotting / summary function returns the traditional object unchanged,
whatever the options and whatever the outcome (drawn or raised). -/
theorem plot_readonly (o : PanelOpts) (dMc dFn : Dist) (s : HvTrad ℝ) :
    (plotSinglePanel o s).1 = s ∧ (plotPreAndPostRejection dMc dFn s).1 = s ∧
    (summarizeHvsrStatistics dMc dFn s).1 = s := by
  refine ⟨rfl, ?_, rfl⟩
  exact prepost_restores _ _ (fun _ => rfl) (fun _ => rfl) s

/-- … and the azimuthal object -/
theorem plot_readonly_az (o : AzSummaryOpts) (s : HvAz ℝ) :
    (plotSinglePanelAz o.panel s).1 = s ∧ (plotAzimuthalSummary o s).1 = s := ⟨rfl, rfl⟩

/-! ### Summary table -/

/-- row 0 of the table = (mean | median, std, −1σ, +1σ) of fn — the object's statistics -/
theorem fn_row (d : Dist) (s : HvTrad ℝ) :
    (summaryRows d s)[0]? = some [s.meanFn d, s.stdFn d, s.nthStdFn (-1) d, s.nthStdFn 1 d] ∧
    (summaryRows d s)[2]? = some [s.meanAmp d, s.stdAmp d, s.nthStdAmp (-1) d, s.nthStdAmp 1 d] := by
  cases d <;> simp only [summaryRows, statRows, ampRow, HvTrad.nthStdFn, HvTrad.nthStdAmp, ofNat_real, Nat.cast_one,
    List.cons_append, List.nil_append, List.getElem?_cons_zero, List.getElem?_cons_succ, and_self]

/-- **`period_row`.** Row 1 of the lognormal table: its first two entries are the lognormal median and the
log-standard deviation of the *reciprocal* peak frequencies `T_i = 1/f_i` of the windows with a valid peak
(the code computes them as `1/median(f)` and `σ_ln(f)`); its last two entries are the reciprocals of the
fn row's −1σ / +1σ values, i.e. the +1σ / −1σ periods. -/
theorem period_row (s : HvTrad ℝ) (h2 : 2 ≤ (somes s.peakFreqs).length) :
    let T := (somes s.peakFreqs).map (fun f => 1 / f)
    let medT := nanmeanW .lognormal (T.map some) none
    let sigT := nanstdW .lognormal (T.map some) none .nist
    (summaryRows .lognormal s)[1]? =
      some [medT, sigT, nthStdO 1 .lognormal medT sigT, nthStdO (-1) .lognormal medT sigT] := by
  intro T medT sigT
  have hne : somes s.peakFreqs ≠ [] := fun h => by rw [h] at h2; exact absurd h2 (by decide)
  have hmed : medT = recipO (s.meanFn .lognormal) := by
    rw [recipO_real, HvTrad.meanFn, C05.nopeak_excluded_mean]
    exact C05.reciprocal_median _ hne
  have hsig : sigT = s.stdFn .lognormal := by
    rw [HvTrad.stdFn, C05.nopeak_excluded_std _ _ h2]
    exact C05.reciprocal_sigma _ h2
  simp only [hmed, hsig, summaryRows, statRows, List.cons_append, List.getElem?_cons_succ, List.getElem?_cons_zero,
    recipO_nthStdO, ofNat_real, Nat.cast_one, neg_neg]

/-- the period row of the normal table is undefined (NaN), as the code writes it -/
theorem period_row_normal (s : HvTrad ℝ) : (summaryRows .normal s)[1]? = some [none, none, none, none] := rfl

/-! ### Non-vacuity -/

/-- a concrete object over `Int` (frequencies 1..5, three windows, the middle one rejected) -/
def demo : HvTrad Int :=
  { freq := [1, 2, 3, 4, 5], rows := [[1, 3, 1, 1, 1], [1, 1, 1, 4, 1], [1, 1, 5, 1, 1]], range := some (none, none),
    peaks := [some (2, 3), some (4, 4), some (3, 5)], vWin := [true, false, true], vPeak := [true, false, true] }

example : (individualLines true demo).map (·.y) = [[1, 3, 1, 1, 1].map some, [1, 1, 5, 1, 1].map some] := by decide +kernel
example : (individualLines false demo).map (·.y) = [[1, 1, 1, 4, 1].map some] := by decide +kernel
example : peakMarkerLines true demo = [{ style := .peakIndividualValid, x := [some 2, some 3], y := [some 3, some 5] }] := by
  decide +kernel
example : peakMarkerLines false demo = [{ style := .peakIndividualInvalid, x := [some 4], y := [some 4] }] := by decide +kernel
example : countTrue demo.vWin = 2 ∧ demo.rows.length - countTrue demo.vWin = 1 := by decide

/-- a panel that raises without touching the object -/
def raising : HvTrad Int → HvTrad Int × Except String Unit := fun s => (s, .error "boom")
def fine : HvTrad Int → HvTrad Int × Except String Unit := fun s => (s, .ok ())

/-- repaired code: the masks are back after the first panel raised … -/
example : (prePostRejectionWith raising fine demo).1.vWin = [true, false, true] := by decide
/-- … and the first panel did see all windows accepted -/
example : (ppSetAll (ppSave demo)).obj.vWin = [true, true, true] := by decide
/-- pinned code (finding C20-a): after the same exception the object is left with every window accepted -/
example : (prePostRejectionPinnedWith raising fine demo).1.vWin = [true, true, true] := by decide
example : (prePostRejectionPinnedWith raising fine demo).1.vWin ≠ demo.vWin := by decide
/-- both codes agree on the normal exit -/
example : (prePostRejectionPinnedWith fine fine demo).1.vWin = demo.vWin ∧
    (prePostRejectionWith fine fine demo).1.vWin = demo.vWin := by decide

example : (2 : ℕ) ≤ (somes ([some 1.5, none, some 2.5, some 2.0] : List (Option ℝ))).length := by
  decide

end HV.C20
