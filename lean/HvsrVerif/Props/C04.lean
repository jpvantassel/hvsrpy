import HvsrVerif.Proofs.RealInst
import HvsrVerif.Model.Process
import HvsrVerif.Proofs.Percentile
import HvsrVerif.Proofs.Degrees
import HvsrVerif.Proofs.ProcessLemmas
import Mathlib.Analysis.SpecialFunctions.Trigonometric.Basic
import Mathlib.Tactic.LinearCombination
import Mathlib.Tactic.Ring
/-!
# C04 — Sensor orientation and azimuth handling are geometrically consistent

Model: `Model/Combine.lean` (`orientSample`, `singleAzimuth`, `degNorm`), `Model/Process.lean`.
Angles are degrees clockwise from north; `ns` is the component along the sensor's "north" axis.
-/
namespace HV.C04
open Real

theorem radians_real (d : ℝ) : radians d = d * (π / 180) := by
  unfold radians; simp only [pi_real, ofNat_real, Nat.cast_ofNat]

theorem orientSample_real (cur new : ℝ) (p : ℝ × ℝ) :
    orientSample cur new p = (p.2 * Real.sin (radians (new - cur)) + p.1 * Real.cos (radians (new - cur)),
      p.2 * Real.cos (radians (new - cur)) - p.1 * Real.sin (radians (new - cur))) := rfl

/-- re-orienting preserves the horizontal energy sample by sample -/
theorem orient_energy (cur new : ℝ) (p : ℝ × ℝ) :
    (orientSample cur new p).1 ^ 2 + (orientSample cur new p).2 ^ 2 = p.1 ^ 2 + p.2 ^ 2 := by
  simp only [orientSample_real]
  linear_combination (p.1 ^ 2 + p.2 ^ 2) * Real.sin_sq_add_cos_sq (radians (new - cur))

/-- re-orientations compose: going `a → b` and then `b → c` is going `a → c` -/
theorem orient_compose (a b c : ℝ) (p : ℝ × ℝ) :
    orientSample b c (orientSample a b p) = orientSample a c p := by
  simp only [orientSample_real, radians_real,
    show (c - a) * (π / 180) = (c - b) * (π / 180) + (b - a) * (π / 180) by ring, Real.cos_add, Real.sin_add]
  exact Prod.ext (by ring) (by ring)

/-- re-orienting back restores the samples exactly (invertible) -/
theorem orient_inverse (a b : ℝ) (p : ℝ × ℝ) : orientSample b a (orientSample a b p) = p := by
  rw [orient_compose]
  simp [orientSample_real, radians_real]

/-- orientations that differ by whole turns give the same samples -/
theorem orient_mod360 (cur new : ℝ) (k : ℤ) (p : ℝ × ℝ) :
    orientSample cur (new + 360 * k) p = orientSample cur new p := by
  simp only [orientSample_real, radians_real]
  have e : (new + 360 * k - cur) * (π / 180) = (new - cur) * (π / 180) + k * (2 * π) := by ring
  rw [e, Real.cos_add_int_mul_two_pi, Real.sin_add_int_mul_two_pi]

/-- the stored orientation after normalisation lies in `[0, 360)` and differs from the request by whole turns -/
theorem degNorm_spec (d : ℝ) : 0 ≤ degNorm d ∧ degNorm d < 360 ∧ ∃ k : ℤ, degNorm d = d - 360 * k :=
  ⟨(degNorm_range d).1, (degNorm_range d).2, ⌊d / 360⌋, by rw [degNorm_real, mul_comm]⟩

/-- **Polarised motion is recovered.** Motion `m` along the true azimuth `φ` recorded by a sensor deployed at
`d` (it records `m cos(φ−d)` on its north axis and `m sin(φ−d)` on its east axis) reappears on azimuth `φ` after
orienting the sensor to north. -/
theorem polarised_motion_recovered (m φ d : ℝ) :
    orientSample d 0 (m * Real.cos (radians (φ - d)), m * Real.sin (radians (φ - d))) =
      (m * Real.cos (radians φ), m * Real.sin (radians φ)) := by
  simp only [orientSample_real, radians_real,
    show φ * (π / 180) = (φ - d) * (π / 180) - (0 - d) * (π / 180) by ring, Real.cos_sub, Real.sin_sub]
  exact Prod.ext (by ring) (by ring)

/-- **Single azimuth = north component after orienting the sensor to that azimuth**, for every current
orientation `cur` of the recording (the code projects at `a − cur`). -/
theorem singleAz_eq_oriented_north (cur a ns ew : ℝ) :
    singleAzimuth (a - cur) ns ew = (orientSample cur a (ns, ew)).1 := by
  unfold singleAzimuth
  simp only [orientSample_real, cos_real, sin_real]
  ring

theorem singleAz_180 (a ns ew : ℝ) : singleAzimuth (a + 180) ns ew = -singleAzimuth a ns ew := by
  unfold singleAzimuth
  simp only [cos_real, sin_real, radians_real]
  have e : (a + 180) * (π / 180) = a * (π / 180) + π := by ring
  rw [e, Real.cos_add_pi, Real.sin_add_pi]
  ring

theorem singleAz_series_180 (a : ℝ) (ns ew : List ℝ) :
    singleAzimuthSeries (a + 180) ns ew = (singleAzimuthSeries a ns ew).map (fun x => (-1) * x) := by
  unfold singleAzimuthSeries
  rw [List.map_map]
  apply List.map_congr_left
  intro p _
  simp [singleAz_180]

/-- **Rotation invariance of the energy combinations**, stated on the (re, im) parts `N = (a, a')`, `E = (b, b')`
of the spectra of the two tapered horizontals (taper and DFT are linear, so the rotated components have spectra
`cN + sE` and `cE − sN`): `|cN+sE|² + |cE−sN|² = |N|² + |E|²`. The squared-average family, the
total-horizontal-energy family and the diffuse-field sum `P_ns + P_ew` are functions of this quantity. -/
theorem rotation_invariant_energy (c s a a' b b' : ℝ) (h : c ^ 2 + s ^ 2 = 1) :
    ((c * a + s * b) ^ 2 + (c * a' + s * b') ^ 2) + ((c * b - s * a) ^ 2 + (c * b' - s * a') ^ 2)
      = (a ^ 2 + a' ^ 2) + (b ^ 2 + b' ^ 2) := by
  linear_combination (a ^ 2 + a' ^ 2 + b ^ 2 + b' ^ 2) * h

theorem azStep_ok {cfg : ProcCfg ℝ} {pol : Policy} {recs : List (Rec3 ℝ)}
    {acc : Except String (FftState × List (ProcResult ℝ))} {az : ℝ} {st : FftState} {out : List (ProcResult ℝ)}
    (h : azStep cfg pol recs acc az = .ok (st, out)) :
    ∃ st0 out0 r, acc = .ok (st0, out0) ∧ processTraditional (.singleAz az) cfg st0 pol recs = .ok r ∧
      st = r.fft ∧ out = out0 ++ [r] := by
  unfold azStep at h
  split at h
  · cases h
  split at h
  · cases h
  cases h
  exact ⟨_, _, _, rfl, ‹_›, rfl, rfl⟩

/-- **The azimuthal result is the stack of the single-azimuth results** whenever the stored FFT state is a fixed
point of `prepare_fft_settings` (every state except `{"n": None}`, cf. `C01.prepareFft_idem_iff`). -/
theorem azimuthal_is_stack (azs : List ℝ) (cfg : ProcCfg ℝ) (fft : FftState) (pol : Policy) (recs : List (Rec3 ℝ))
    (hfix : prepareFft (prepareFft fft (maxSamples recs)) (maxSamples recs) = prepareFft fft (maxSamples recs))
    (st : FftState) (out : List (ProcResult ℝ))
    (h : processAzimuthal azs cfg fft pol recs = .ok (st, out)) :
    st = prepareFft fft (maxSamples recs) ∧
    out.map Except.ok = azs.map (fun az => processTraditional (.singleAz az) cfg (prepareFft fft (maxSamples recs)) pol recs) := by
  unfold processAzimuthal at h
  -- from the last azimuth backwards: the state that reaches it is, by induction, the prepared one, and `hfix` keeps it
  induction azs using List.reverseRecOn generalizing st out with
  | nil => cases h; exact ⟨rfl, rfl⟩
  | append_singleton azs az ih =>
    rw [List.foldl_append, List.foldl_cons, List.foldl_nil] at h
    obtain ⟨st0, out0, r, h0, hp, rfl, rfl⟩ := azStep_ok h
    obtain ⟨rfl, ih2⟩ := ih st0 out0 h0
    refine ⟨(processTraditional_ok hp).1.trans hfix, ?_⟩
    rw [List.map_append, List.map_append, ih2, List.map_singleton, List.map_singleton, hp]

/-- **RotDpp is non-decreasing in the percentile** (numpy's 'linear' percentile of the values over the azimuths). -/
theorem percentile_mono (vals : List ℝ) (q₁ q₂ : ℝ) (h0 : 0 ≤ q₁) (h12 : q₁ ≤ q₂) (h2 : q₂ ≤ 100) (hne : vals ≠ []) :
    percentile vals q₁ ≤ percentile vals q₂ := by
  rw [percentile_eq_interp vals q₁ (h12.trans h2), percentile_eq_interp vals q₂ h2]
  have hn : (0 : ℝ) ≤ ((vals.length - 1 : ℕ) : ℝ) := Nat.cast_nonneg _
  exact interp_mono _ (nodes_mono _ (sortA_sorted vals)) (div_nonneg (mul_nonneg hn h0) (by norm_num))
    (div_le_div_of_nonneg_right (mul_le_mul_of_nonneg_left h12 hn) (by norm_num))

/-- **RotDpp is bounded by the minimum and the maximum over the azimuths.** -/
theorem percentile_bounds (vals : List ℝ) (q : ℝ) (h0 : 0 ≤ q) (h1 : q ≤ 100) (hne : vals ≠ []) :
    (∃ lo ∈ vals, lo ≤ percentile vals q) ∧ (∃ hi ∈ vals, percentile vals q ≤ hi) ∧
    (∀ lo, (∀ v ∈ vals, lo ≤ v) → lo ≤ percentile vals q) ∧ (∀ hi, (∀ v ∈ vals, v ≤ hi) → percentile vals q ≤ hi) := by
  rw [percentile_eq_interp vals q h1]
  have hs : sortA vals ≠ [] := fun h => hne (h ▸ (sortA_perm vals).symm : vals.Perm []).eq_nil
  have node_mem : ∀ i, nodes (sortA vals) i ∈ vals := fun i => (sortA_perm vals).mem_iff.mp (nodes_mem _ hs i)
  obtain ⟨hb1, hb2⟩ := interp_between (nodes (sortA vals)) (nodes_mono _ (sortA_sorted vals)) _
    (div_nonneg (mul_nonneg (Nat.cast_nonneg (vals.length - 1)) h0) (by norm_num : (0 : ℝ) ≤ 100))
  exact ⟨⟨_, node_mem _, hb1⟩, ⟨_, node_mem _, hb2⟩, fun lo hlo => (hlo _ (node_mem _)).trans hb1,
    fun hi hhi => hb2.trans (hhi _ (node_mem _))⟩

/-! ### Non-vacuity -/
example : (orientSample (0 : ℝ) 0 (3, 4)) = (3, 4) := by
  simp [orientSample_real, radians_real]

end HV.C04
