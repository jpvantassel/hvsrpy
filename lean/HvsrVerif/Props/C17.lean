import HvsrVerif.Proofs.DFTLemmas
import HvsrVerif.Props.C01
import Mathlib.Algebra.BigOperators.Field
import Mathlib.Tactic.LinearCombination
/-!
# C17 — Power spectral densities are correctly normalised; diffuse-field HVSR agrees

Model: `Model/Process.lean` (`psdComponent`, `processDiffuse`), `Model/DFT.lean`; the preprocessing transforms of
`Model/PsdPre.lean` are the subject of `Props/C17Inv`, `C17Deriv`, `C17Odd`.
-/
namespace HV.C17

/-- power of bin `k` of the `n`-point DFT of the zero-padded series -/
noncomputable def binPower (x : List ℝ) (n k : ℕ) : ℝ := (dftRe x n k) ^ 2 + (dftIm x n k) ^ 2

/-- **Parseval, one-sided form.** For an even FFT length `n = 2h` the interior bins carry exactly the energy that
is not in the 0 Hz and Nyquist bins: `2 Σ_{0<k<h} |X_k|² = n Σ_j x_j² − |X_0|² − |X_h|²`. -/
theorem interior_bins_parseval (x : List ℝ) (h : ℕ) (hh : 1 ≤ h) (hlen : x.length ≤ 2 * h) :
    2 * ∑ k ∈ Finset.Ico 1 h, binPower x (2 * h) k
      = (2 * h : ℕ) * ∑ j ∈ Finset.range (2 * h), (padR x j) ^ 2 - binPower x (2 * h) 0 - binPower x (2 * h) h := by
  have hp := parseval_half x (2 * h) (by omega) hlen
  rw [halfSum_even] at hp
  unfold binPower
  rw [← hp]
  ring

/-- **PSD normalisation (Parseval with the code's scaling).** With the density of bin `k` equal to
`2|X_k|²/(U·L·fs)` (that is bin `k` of `psdComponent width n dt [x]` by `psdComponent_getD`, with `xw = (taper width x).take n`,
`U = taperPower width (len x)`, `L = len x`, `fs = 1/dt`), the density summed strictly between 0 Hz and Nyquist and multiplied by the
bin width `fs/n` is the mean square of the tapered signal normalised by the taper power `U`, minus the part carried
by the 0 Hz and Nyquist bins. -/
theorem psd_parseval (xw : List ℝ) (h : ℕ) (hh : 1 ≤ h) (hlen : xw.length ≤ 2 * h) (U L fs : ℝ)
    (hU : U ≠ 0) (hL : L ≠ 0) (hfs : fs ≠ 0) :
    (∑ k ∈ Finset.Ico 1 h, (binPower xw (2 * h) k / U / L / fs * 2 / 1)) * (fs / (2 * h : ℕ))
      = (∑ j ∈ Finset.range (2 * h), (padR xw j) ^ 2) / (L * U)
        - (binPower xw (2 * h) 0 + binPower xw (2 * h) h) / (L * (2 * h : ℕ) * U) := by
  have key := interior_bins_parseval xw h hh hlen
  have hn : ((2 * h : ℕ) : ℝ) ≠ 0 := by exact_mod_cast (by omega : 2 * h ≠ 0)
  rw [← Finset.sum_div, ← Finset.sum_mul, ← Finset.sum_div, ← Finset.sum_div, ← Finset.sum_div]
  field_simp
  linear_combination key

/-- **Amplitude scaling.** The spectral power of every bin scales with the square of the signal amplitude. -/
theorem powSpec_scale (c : ℝ) (x : List ℝ) (n : ℕ) :
    powSpec (x.map (c * ·)) n = (powSpec x n).map (c ^ 2 * ·) := by
  unfold powSpec rfft
  simp only [List.map_map]
  apply List.map_congr_left
  intro k _
  simp only [Function.comp, ← List.map_take]
  obtain ⟨h1, h2⟩ := C01.dft_homog c (x.take n) n k
  rw [h1, h2]
  ring

theorem powSpec_length (x : List ℝ) (n : ℕ) : (powSpec x n).length = n / 2 + 1 := by
  rw [powSpec, List.length_map, rfft_length]

theorem powSpec_getD (x : List ℝ) (n k : ℕ) (hk : k < n / 2 + 1) : (powSpec x n).getD k 0 = binPower (x.take n) n k := by
  simp [powSpec, binPower, List.getD_eq_getElem?_getD, rfft_length, rfft_getElem, hk, sq]

theorem zip_zeros_add (l : List ℝ) : (List.zip (List.replicate l.length (0:ℝ)) l).map (fun p => p.1 + p.2) = l := by
  induction l with
  | nil => rfl
  | cons a t ih => simp [List.replicate_succ, ih]

/-- one window: the density of bin `k` is `2 |X_k|² / (U · L · fs)` with `X` the DFT of the tapered window -/
theorem psd_single (width dt : ℝ) (n : ℕ) (x : List ℝ) :
    psdComponent width n dt [x] =
      (powSpec (taper width x) n).map (fun p => p / taperPower width x.length / (x.length : ℝ) / (1 / dt) * 2 / 1) := by
  unfold psdComponent
  -- the accumulator starts as `n/2 + 1` zeros, as many as the one spectrum that is added to it (`zip_zeros_add`)
  simp only [List.foldl_cons, List.foldl_nil, List.getLastD_cons, List.getLastD_nil, List.length_singleton, ofNat_real,
    Nat.cast_one, Nat.cast_ofNat, Nat.cast_zero, ← powSpec_length (taper width x) n, zip_zeros_add]

theorem psd_scale_single (width dt c : ℝ) (n : ℕ) (x : List ℝ) :
    psdComponent width n dt [x.map (c * ·)] = (psdComponent width n dt [x]).map (c ^ 2 * ·) := by
  rw [psd_single, psd_single, C01.taper_homog, powSpec_scale]
  simp only [List.map_map, List.length_map]
  apply List.map_congr_left
  intro p _
  simp only [Function.comp]
  ring

theorem foldl_zipAdd_getD {β : Type} (g : β → List ℝ) (ws : List β) (m : ℕ) (hlen : ∀ w ∈ ws, (g w).length = m)
    (acc : List ℝ) (hacc : acc.length = m) (k : ℕ) (hk : k < m) :
    (ws.foldl (fun acc w => (List.zip acc (g w)).map (fun p => p.1 + p.2)) acc).getD k 0
      = acc.getD k 0 + (ws.map (fun w => (g w).getD k 0)).sum ∧
    (ws.foldl (fun acc w => (List.zip acc (g w)).map (fun p => p.1 + p.2)) acc).length = m := by
  induction ws generalizing acc with
  | nil => simp [hacc]
  | cons w ws ih =>
    obtain ⟨hw, hws⟩ := List.forall_mem_cons.mp hlen
    obtain ⟨h1, h2⟩ := ih hws ((List.zip acc (g w)).map fun p => p.1 + p.2) (by simp [hacc, hw])
    refine ⟨?_, h2⟩
    rw [List.foldl_cons, h1, List.map_cons, List.sum_cons, ← add_assoc]
    congr 1
    simp [List.getD_eq_getElem?_getD, hacc, hw, hk]

theorem psdComponent_getD (width dt : ℝ) (n : ℕ) (wins : List (List ℝ)) (k : ℕ) (hk : k < n / 2 + 1) :
    (psdComponent width n dt wins).getD k 0
      = (wins.map (fun x => binPower ((taper width x).take n) n k)).sum / taperPower width (wins.getLastD []).length
          / ((wins.getLastD []).length : ℝ) / (1 / dt) * 2 / (wins.length : ℝ) := by
  obtain ⟨hf1, hf2⟩ := foldl_zipAdd_getD (fun x => powSpec (taper width x) n) wins (n / 2 + 1)
    (fun x _ => powSpec_length _ _) (List.replicate (n / 2 + 1) (0:ℝ)) List.length_replicate k hk
  rw [show (List.replicate (n / 2 + 1) (0:ℝ)).getD k 0 = 0 by simp [List.getD_eq_getElem?_getD, hk], zero_add] at hf1
  simp only [powSpec_getD _ _ _ hk] at hf1
  unfold psdComponent
  simp only [ofNat_real, Nat.cast_one, Nat.cast_ofNat, Nat.cast_zero]
  rw [← hf1, List.getD_eq_getElem?_getD, List.getD_eq_getElem?_getD, List.getElem?_map,
    List.getElem?_eq_getElem (by rw [hf2]; exact hk), Option.map_some, Option.getD_some, Option.getD_some]

/-- **Welch.** For several equally long windows the density is, bin by bin, the average of the single-window densities. -/
theorem psd_welch (width dt : ℝ) (n : ℕ) (wins : List (List ℝ)) (L : ℕ) (hne : wins ≠ [])
    (hL : ∀ x ∈ wins, x.length = L) (k : ℕ) (hk : k < n / 2 + 1) :
    (psdComponent width n dt wins).getD k 0
      = (wins.map (fun x => (psdComponent width n dt [x]).getD k 0)).sum / (wins.length : ℝ) := by
  obtain ⟨a, t, rfl⟩ := List.exists_cons_of_ne_nil hne
  -- every single-window density has the same scaling, so the scaling moves out of the sum
  have h1 : ∀ x ∈ a :: t, (psdComponent width n dt [x]).getD k 0
      = binPower ((taper width x).take n) n k * (1 / taperPower width L / (L : ℝ) / (1 / dt) * 2) := fun x hx => by
    rw [psdComponent_getD _ _ _ _ k hk, List.getLastD_cons, List.getLastD_nil, hL x hx, List.map_singleton,
      List.sum_singleton, List.length_singleton, Nat.cast_one]
    ring
  rw [psdComponent_getD _ _ _ _ k hk, List.getLastD_cons, hL _ List.getLastD_mem_cons, List.map_congr_left h1,
    List.sum_map_mul_right]
  ring

/-- diffuse-field HVSR is, by definition of the processing chain, `√(S(P_ns + P_ew)/S(P_vt))` of the same windows -/
theorem diffuse_def (cfg : ProcCfg ℝ) (fft : FftState) (pol : Policy) (recs : List (Rec3 ℝ))
    (st : FftState) (kept : List ℕ) (row : List ℝ) (h : processDiffuse cfg fft pol recs = .ok (st, kept, row)) :
    ∃ n r0 rest sh sv q, st.len = some n ∧ kept = keptIndices pol (recs.map (·.dt)) ∧
      kept.filterMap (fun i => recs[i]?) = r0 :: rest ∧
      smoothRows cfg n r0.dt
        [(List.zip (psdComponent cfg.width n r0.dt ((r0 :: rest).map (·.ns))) (psdComponent cfg.width n r0.dt ((r0 :: rest).map (·.ew)))).map
            (fun p => p.1 + p.2),
         psdComponent cfg.width n r0.dt ((r0 :: rest).map (·.vt))] = .ok [sh, sv] ∧
      ratioRow sh sv = .ok q ∧ row = q.map Real.sqrt := by
  unfold processDiffuse at h
  dsimp only at h
  split at h
  · cases h
  rename_i n hn
  split at h
  · cases h
  split at h
  · cases h
  rename_i r0 rest hk
  split at h
  · cases h
  split at h
  · rename_i sh sv hs
    split at h
    · rename_i q hq
      cases h
      exact ⟨n, r0, rest, sh, sv, q, hn, rfl, hk, hk ▸ hs, hq, rfl⟩
    · cases h
  · cases h
  · cases h

/-! ### Non-vacuity -/
example : (List.replicate 3 (0:ℝ)).length = 3 := List.length_replicate

end HV.C17
