import HvsrVerif.Proofs.HvStateLemmas
import HvsrVerif.Proofs.Split
/-!
# C08 — Reported peaks are the highest local maximum inside the search range

Model: `Model/Peaks.lean`, `Model/HvState.lean`. Theorems over `ℝ`.
-/
namespace HV.C08

/-- `i` is an interior plateau maximum of `x`: a maximal run `x[l..r]` of equal samples with strictly
lower neighbours on both sides, reported at its midpoint (a strict local maximum has `l = r = i`). -/
def IsPlateauMax (x : List ℝ) (i : Nat) : Prop :=
  ∃ l r v, l ≤ i ∧ i ≤ r ∧ (∀ j, l ≤ j → j ≤ r → x[j]? = some v) ∧ 0 < l ∧ r + 1 < x.length ∧
    (∃ a, x[l-1]? = some a ∧ a < v) ∧ (∃ b, x[r+1]? = some b ∧ b < v) ∧ i = (l + r) / 2

theorem runLeft_succ (x : List ℝ) (v : ℝ) (i : Nat) :
    runLeft x v (i + 1) = if x[i]? = some v then runLeft x v i + 1 else 0 := by
  rw [runLeft]
  cases x[i]? <;> simp [eqA_real]

theorem runRight_succ (x : List ℝ) (v : ℝ) (i k : Nat) :
    runRight x v i (k + 1) = if x[i+1]? = some v then runRight x v (i + 1) k + 1 else 0 := by
  rw [runRight]
  cases x[i+1]? <;> simp [eqA_real]

/-- `x[l..r]` is the maximal run of samples equal to `v` that contains index `i` -/
structure MaxRun (x : List ℝ) (v : ℝ) (i l r : Nat) : Prop where
  le : l ≤ i
  ge : i ≤ r
  all_eq : ∀ j, l ≤ j → j ≤ r → x[j]? = some v
  left : l = 0 ∨ x[l-1]? ≠ some v
  right : x[r+1]? ≠ some v

section
variable {x : List ℝ} {v : ℝ} {i l r l' r' : Nat}

theorem MaxRun.left_le (h : MaxRun x v i l r) (h' : MaxRun x v i l' r') : l' ≤ l :=
  -- if `l < l'` then `l' - 1` lies in `h`'s run, so `x[l'-1] = v`, against `h'.left`
  Nat.le_of_not_lt fun c => h'.left.resolve_left (Nat.ne_zero_of_lt c)
    (h.all_eq (l' - 1) (Nat.le_sub_one_of_lt c) ((Nat.sub_le _ _).trans (h'.le.trans h.ge)))

theorem MaxRun.right_le (h : MaxRun x v i l r) (h' : MaxRun x v i l' r') : r' ≤ r :=
  -- if `r < r'` then `r + 1` lies in `h'`'s run, so `x[r+1] = v`, against `h.right`
  Nat.le_of_not_lt fun c => h.right (h'.all_eq (r + 1) (h'.le.trans (h.ge.trans (Nat.le_succ r))) c)

theorem MaxRun.unique (h : MaxRun x v i l r) (h' : MaxRun x v i l' r') : l = l' ∧ r = r' :=
  ⟨Nat.le_antisymm (h'.left_le h) (h.left_le h'), Nat.le_antisymm (h'.right_le h) (h.right_le h')⟩

end

theorem runLeft_spec (x : List ℝ) (v : ℝ) (i : Nat) :
    (∀ j, i - runLeft x v i ≤ j → j < i → x[j]? = some v) ∧
      (i - runLeft x v i = 0 ∨ x[i - runLeft x v i - 1]? ≠ some v) := by
  induction i with
  | zero => exact ⟨fun j _ h => absurd h (Nat.not_lt_zero j), Or.inl (Nat.zero_sub _)⟩
  | succ i ih =>
    rw [runLeft_succ]
    split
    · rename_i h
      rw [Nat.add_sub_add_right]
      refine ⟨fun j h1 h2 => ?_, ih.2⟩
      rcases Nat.lt_succ_iff_lt_or_eq.mp h2 with h2 | rfl
      · exact ih.1 j h1 h2
      · exact h
    · rename_i h
      exact ⟨fun j h1 h2 => absurd h2 (Nat.not_lt.mpr h1), Or.inr h⟩

/-- `k` is fuel: the run must end before the fuel does, which `x.length ≤ i + k + 1` ensures (the list ends first);
`plateauBounds` calls `runRight` with `k = x.length - i`. -/
theorem runRight_spec (x : List ℝ) (v : ℝ) (k : Nat) : ∀ i, x.length ≤ i + k + 1 →
    (∀ j, i < j → j ≤ i + runRight x v i k → x[j]? = some v) ∧ x[i + runRight x v i k + 1]? ≠ some v := by
  induction k with
  | zero =>
    intro i h
    exact ⟨fun j h1 h2 => absurd h1 (Nat.not_lt.mpr h2), fun e => nomatch (List.getElem?_eq_none h).symm.trans e⟩
  | succ k ih =>
    intro i hk
    rw [runRight_succ]
    split
    · rename_i h
      obtain ⟨b, c⟩ := ih (i + 1) (by omega)
      rw [← Nat.add_assoc, Nat.add_right_comm i _ 1]
      refine ⟨fun j h1 h2 => ?_, c⟩
      rcases Nat.eq_or_lt_of_le h1 with rfl | h1
      · exact h
      · exact b j h1 h2
    · rename_i h
      exact ⟨fun j h1 h2 => absurd h1 (Nat.not_lt.mpr h2), h⟩

theorem plateauBounds_eq_iff {x : List ℝ} {v : ℝ} {i : Nat} (hv : x[i]? = some v) (l r : Nat) :
    plateauBounds x i = (l, r) ↔ MaxRun x v i l r := by
  have hL := runLeft_spec x v i
  have hR := runRight_spec x v (x.length - i) i (by omega)
  have key : MaxRun x v i (i - runLeft x v i) (i + runRight x v i (x.length - i)) :=
    ⟨Nat.sub_le _ _, Nat.le_add_right _ _, fun j h1 h2 => by
      rcases Nat.lt_trichotomy j i with h | h | h
      · exact hL.1 j h1 h
      · exact h ▸ hv
      · exact hR.1 j h h2, hL.2, hR.2⟩
  simp only [plateauBounds, hv, Prod.mk.injEq]
  exact ⟨fun ⟨h1, h2⟩ => h1 ▸ h2 ▸ key, fun h => key.unique h⟩

theorem isPlateauMid_iff {x : List ℝ} {i l r : Nat} {v : ℝ} (hv : x[i]? = some v) (hb : plateauBounds x i = (l, r)) :
    isPlateauMid x i = true ↔ 0 < l ∧ r + 1 < x.length ∧ (∃ a, x[l-1]? = some a ∧ a < v) ∧
      (∃ b, x[r+1]? = some b ∧ b < v) ∧ i = (l + r) / 2 := by
  simp only [isPlateauMid, hv, hb, Bool.and_eq_true, decide_eq_true_eq, and_assoc]
  refine and_congr_right' (and_congr_right' (and_congr ?_ (and_congr_left' ?_)))
  · cases x[l-1]? <;> simp
  · cases x[r+1]? <;> simp

/-- the search reports exactly the interior plateau maxima -/
theorem localMaxima_iff (x : List ℝ) (i : ℕ) : i ∈ localMaxima x ↔ IsPlateauMax x i := by
  simp only [localMaxima, List.mem_filter, List.mem_range]
  constructor
  · rintro ⟨hi, h⟩
    have hv : x[i]? = some x[i] := List.getElem?_eq_getElem hi
    have m := (plateauBounds_eq_iff hv _ _).mp rfl
    exact ⟨_, _, _, m.le, m.ge, m.all_eq, (isPlateauMid_iff hv rfl).mp h⟩
  · rintro ⟨l, r, v, h1, h2, h3, hl, hr, ⟨a, ha, hav⟩, ⟨b, hb, hbv⟩, hm⟩
    have hv := h3 i h1 h2
    have e := (plateauBounds_eq_iff hv l r).mpr ⟨h1, h2, h3,
      Or.inr (ha ▸ fun h => hav.ne (Option.some.inj h)), hb ▸ fun h => hbv.ne (Option.some.inj h)⟩
    exact ⟨h2.trans_lt (Nat.lt_of_succ_lt hr), (isPlateauMid_iff hv e).mpr ⟨hl, hr, ⟨a, ha, hav⟩, ⟨b, hb, hbv⟩, hm⟩⟩

/-- Completeness for strict local maxima: an interior sample strictly above both neighbours is reported. -/
theorem localMaxima_complete_strict (x : List ℝ) (i : Nat) (a v b : ℝ) (hi : 0 < i)
    (ha : x[i-1]? = some a) (hv : x[i]? = some v) (hb : x[i+1]? = some b) (h1 : a < v) (h2 : b < v) :
    i ∈ localMaxima x :=
  (localMaxima_iff x i).mpr ⟨i, i, v, le_rfl, le_rfl, fun j h1 h2 => Nat.le_antisymm h1 h2 ▸ hv, hi,
    (List.getElem?_eq_some_iff.mp hb).1, ⟨a, ha, h1⟩, ⟨b, hb, h2⟩,
    by rw [← Nat.two_mul, Nat.mul_div_cancel_left i Nat.two_pos]⟩

theorem argmaxOn_eq_none_iff {amp : List ℝ} {is : List Nat} :
    argmaxOn amp is = none ↔ ∀ j ∈ is, amp[j]? = none := by
  induction is with
  | nil => simp [argmaxOn]
  | cons k ks ih =>
    rw [List.forall_mem_cons, ← ih, argmaxOn]
    cases amp[k]? with
    | none => simp
    | some a =>
      cases argmaxOn amp ks with
      | none => simp
      | some p => simp only [reduceCtorEq, false_and, iff_false]; split <;> simp

/-- a maximum over `is`; which one among equal maxima is left open (`argmaxOn` takes the first, as `np.argmax`; no theorem needs it) -/
theorem argmaxOn_spec {amp : List ℝ} {is : List Nat} {i : Nat} {a : ℝ} (h : argmaxOn amp is = some (i, a)) :
    i ∈ is ∧ amp[i]? = some a ∧ ∀ j ∈ is, ∀ b, amp[j]? = some b → b ≤ a := by
  induction is generalizing i a with
  | nil => simp [argmaxOn] at h
  | cons k ks ih =>
    simp only [List.forall_mem_cons]
    unfold argmaxOn at h
    cases hk : amp[k]? with
    | none =>
      rw [hk] at h
      obtain ⟨h1, h2, h3⟩ := ih h
      exact ⟨List.mem_cons_of_mem _ h1, h2, fun b hb => (nomatch hb), h3⟩
    | some ak =>
      rw [hk] at h
      cases hr : argmaxOn amp ks with
      | none =>
        rw [hr] at h; cases h
        exact ⟨List.mem_cons_self, hk, fun b hb => (Option.some.inj hb).ge,
          fun j hj b hb => nomatch (argmaxOn_eq_none_iff.mp hr j hj).symm.trans hb⟩
      | some p =>
        obtain ⟨r1, r2, r3⟩ := ih hr
        rw [hr] at h
        simp only at h
        split at h <;> rename_i hlt <;> cases h
        · exact ⟨List.mem_cons_of_mem _ r1, r2, fun b hb => Option.some.inj hb ▸ hlt.le, r3⟩
        · exact ⟨List.mem_cons_self, hk, fun b hb => (Option.some.inj hb).ge,
            fun j hj b hb => (r3 j hj b hb).trans (not_lt.mp hlt)⟩

theorem localMaxima_lt_length {x : List ℝ} {i : Nat} (h : i ∈ localMaxima x) : i < x.length := by
  unfold localMaxima at h
  exact List.mem_range.mp (List.mem_filter.mp h).1

theorem findPeakUnbounded_spec {freq amp : List ℝ} {f a : ℝ} (h : findPeakUnbounded freq amp = some (f, a)) :
    ∃ i, IsPlateauMax amp i ∧ freq[i]? = some f ∧ amp[i]? = some a ∧
      ∀ j, j ∈ localMaxima amp → ∀ b, amp[j]? = some b → b ≤ a := by
  unfold findPeakUnbounded at h
  split at h
  · cases h
  · rename_i i a' harg
    split at h
    · rename_i f' hf
      cases h
      obtain ⟨h1, h2, h3⟩ := argmaxOn_spec harg
      exact ⟨i, (localMaxima_iff _ _).mp h1, hf, h2, h3⟩
    · cases h

/-- **Peak specification.** With `lo, hi` the index slice of the search range: a reported peak `(f, a)` sits at
an interior plateau maximum `i` of the sliced curve, `a` is the curve's value there, `f` the frequency there,
and no other local maximum of the slice is higher. -/
theorem findPeak_spec (freq amp : List ℝ) (r : Range ℝ) (f a : ℝ)
    (h : findPeakBounded freq amp r = some (f, a)) :
    let lo := (rangeToIdx freq r).1
    let hi := (rangeToIdx freq r).2
    ∃ i, IsPlateauMax (pySlice amp lo hi) i ∧ (pySlice freq lo hi)[i]? = some f ∧
      (pySlice amp lo hi)[i]? = some a ∧
      ∀ j, j ∈ localMaxima (pySlice amp lo hi) → ∀ b, (pySlice amp lo hi)[j]? = some b → b ≤ a :=
  findPeakUnbounded_spec h

theorem findPeakUnbounded_eq_none_iff (freq amp : List ℝ) (hlen : freq.length = amp.length) :
    findPeakUnbounded freq amp = none ↔ localMaxima amp = [] := by
  unfold findPeakUnbounded
  cases harg : argmaxOn amp (localMaxima amp) with
  | none =>
    -- every local maximum is an index of `amp`, so the argmax over them is defined unless there is none
    refine iff_of_true rfl (List.eq_nil_iff_forall_not_mem.mpr fun j hj => ?_)
    have := List.getElem?_eq_none_iff.mp (argmaxOn_eq_none_iff.mp harg j hj)
    exact absurd (localMaxima_lt_length hj) (not_lt.mpr this)
  | some p =>
    obtain ⟨h1, -, -⟩ := argmaxOn_spec harg
    have hp : p.1 < freq.length := hlen ▸ localMaxima_lt_length h1
    simp only [List.getElem?_eq_getElem hp]
    exact iff_of_false nofun (List.ne_nil_of_mem h1)

/-- A peak is reported as absent exactly when the slice has no interior local maximum (given equally long
frequency and amplitude vectors): empty, inverted and out-of-grid ranges included. -/
theorem findPeak_none_iff (freq amp : List ℝ) (r : Range ℝ) (hlen : freq.length = amp.length) :
    findPeakBounded freq amp r = none ↔
      localMaxima (pySlice amp (rangeToIdx freq r).1 (rangeToIdx freq r).2) = [] :=
  findPeakUnbounded_eq_none_iff _ _ (by simp only [pySlice_eq_slice, Split.length_slice, hlen])

/-! ### Peaks track the search range after any history -/

/-- What the operations on an `HvsrTraditional` can do to it: `update_peaks_bounded`, or any operation that
only writes the two masks (time-domain rejection, manual rejection, every step of the FDWRA loop, mask restore
by the plotting code): `timeMask m t`, `setMasks vw vp t`, `manualReject idxs t` and `fdwraApply lo up t` are record updates
of exactly the `masks` form, so `.masks _ _ _ _ h` is a step for each. FDWRA is an `update` followed by mask writes:
`fdwraTrad` is `updatePeaks`, then iterations of `fdwraApply` (`C06.loop_spec` at `I := Reach s₀` carries the steps over). -/
inductive Reach : HvTrad ℝ → HvTrad ℝ → Prop
  | refl (s) : Reach s s
  | update (s t) (r : Range ℝ) (kw : Bool) : Reach s t → Reach s (updatePeaks r kw t)
  | masks (s t) (vw vp : List Bool) : Reach s t → Reach s { t with vWin := vw, vPeak := vp }

/-- the stored peaks are those of the stored range -/
def PeaksOk (s : HvTrad ℝ) : Prop :=
  ∃ r, s.range = some r ∧ s.peaks = s.rows.map (fun row => findPeakBounded s.freq row r)

theorem updatePeaks_ok (r : Range ℝ) (kw : Bool) (s : HvTrad ℝ) (h : PeaksOk s) :
    (updatePeaks r kw s).range = some r ∧ (updatePeaks r kw s).freq = s.freq ∧ (updatePeaks r kw s).rows = s.rows ∧
      (updatePeaks r kw s).peaks = s.rows.map (fun row => findPeakBounded s.freq row r) := by
  rcases updatePeaks_cases r kw s with ⟨e, hr⟩ | e <;> rw [e]
  · obtain ⟨r', hr', hp⟩ := h
    cases hr.symm.trans hr'
    exact ⟨hr, rfl, rfl, hp⟩
  · exact ⟨rfl, rfl, rfl, rfl⟩

/-- **Peaks track the range.** After any sequence of range updates and mask-writing operations on a constructed
object, the stored peaks are exactly the peaks of every curve over the *last* requested range: the early
return of `update_peaks_bounded` never leaves a stale peak, and the curves are never modified. -/
theorem peaks_track_range (freq : List ℝ) (rows : List (List ℝ)) (s : HvTrad ℝ)
    (h : Reach (HvTrad.init freq rows) s) :
    PeaksOk s ∧ s.freq = freq ∧ s.rows = rows := by
  generalize hs0 : HvTrad.init freq rows = s0 at h
  induction h with
  | refl => subst hs0; exact ⟨⟨_, rfl, rfl⟩, rfl, rfl⟩
  | update t r kw _ ih =>
    obtain ⟨h1, h2, h3⟩ := ih
    obtain ⟨e1, e2, e3, e4⟩ := updatePeaks_ok r kw t h1
    exact ⟨⟨r, e1, by rw [e4, e2, e3]⟩, e2.trans h2, e3.trans h3⟩
  | masks t vw vp _ ih => exact ih

/-- after `update_peaks_bounded(r)` the stored peaks are those of `r`, whatever range was stored before -/
theorem update_sets_range (freq : List ℝ) (rows : List (List ℝ)) (s : HvTrad ℝ) (r : Range ℝ) (kw : Bool)
    (h : Reach (HvTrad.init freq rows) s) :
    (updatePeaks r kw s).peaks = rows.map (fun row => findPeakBounded freq row r) := by
  obtain ⟨h1, rfl, rfl⟩ := peaks_track_range freq rows s h
  exact (updatePeaks_ok r kw s h1).2.2.2

/-- A window without a peak in the range gets peak = absent and is excluded from the resonance statistics
(`valid_peak` false) by the recomputation; it stays an accepted *window* only when no window has a peak. -/
theorem nopeak_masks (r : Range ℝ) (s : HvTrad ℝ) :
    (recomputePeaks r s).vPeak = (s.rows.map (fun row => findPeakBounded s.freq row r)).map Option.isSome ∧
    ((∃ row ∈ s.rows, (findPeakBounded s.freq row r).isSome) →
      (recomputePeaks r s).vWin = (recomputePeaks r s).vPeak) := by
  refine ⟨rfl, fun ⟨row, hrow, hsome⟩ => if_neg fun hall => ?_⟩
  have := List.all_eq_true.mp hall _ (List.mem_map_of_mem (List.mem_map_of_mem hrow))
  rw [hsome] at this
  cases this

/-! ### Non-vacuity -/
example : localMaxima ([1, 3, 2, 5, 5, 5, 1, 4, 4] : List Rat) = [1, 4] := by decide +kernel
example : findPeakBounded ([1, 2, 3, 4, 5, 6, 7] : List Rat) [1, 3, 2, 5, 4, 6, 1] (none, none) = some (6, 6) := by decide +kernel
example : findPeakBounded ([1, 2, 3, 4, 5, 6, 7] : List Int) [1, 3, 2, 5, 4, 6, 1] (some 1, some 6) = some (4, 5) := by decide +kernel
example : findPeakBounded ([1, 2, 3, 4, 5, 6, 7] : List Int) [1, 3, 2, 5, 4, 6, 1] (some 5, some 2) = none := by decide +kernel
example : findPeakBounded ([1, 2, 3] : List Rat) [2, 2, 2] (none, none) = none := by decide +kernel

end HV.C08
