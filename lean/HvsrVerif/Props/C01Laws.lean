import HvsrVerif.Props.C01
/-!
# C01 (continued) — the laws of the composed chain `hvsrRow` (taper → |DFT| → combine → smooth → divide)

All of them rest on `hvsrRow_cases`: the smoothing operator either refuses whatever the record is, or the curve is the
ratio of the smoothed horizontal curve `horiz` and the smoothed vertical spectrum, smoothing being one `RowMap` applied
to every row. The scale laws are instances of `hvsr_scale_ab_all`; the flat curves of proportional components are instances of `hvsr_flat`.
-/
namespace HV.C01

/-! ### The curve as a ratio of two smoothed rows -/

/-- the smoothed horizontal curve of a method, `S` being the row map of the smoothing operator -/
noncomputable def horiz (S : List ℝ → List ℝ) (cfg : ProcCfg ℝ) (n : ℕ) (deg : ℝ) (ns ew : List ℝ) : Method ℝ → List ℝ
  | .combine c => S ((List.zip (ampSpec (taper cfg.width ns) n) (ampSpec (taper cfg.width ew) n)).map (fun p => c.apply p.1 p.2))
  | .singleAz az => S (ampSpec (taper cfg.width (singleAzimuthSeries (az - deg) ns ew)) n)
  | .rotdpp pct azs =>
    (columnsOf (azs.map fun az => S (ampSpec (taper cfg.width (singleAzimuthSeries (az - deg) ns ew)) n)) cfg.fcs.length).map
      (fun col => percentile col pct)

theorem hvsrRow_cases (cfg : ProcCfg ℝ) (n : ℕ) (dt : ℝ) :
    (∃ e, (∀ rows, smoothRows cfg n dt rows = .error e) ∧
      ∀ m deg ns ew vt, hvsrRow m cfg n ⟨dt, deg, ns, ew, vt⟩ = .error e) ∨
    (∃ S : List ℝ → List ℝ, (∀ rows, smoothRows cfg n dt rows = .ok (rows.map S)) ∧ RowMap S cfg.fcs.length ∧
      ∀ m deg ns ew vt, hvsrRow m cfg n ⟨dt, deg, ns, ew, vt⟩ =
        ratioRow (horiz S cfg n deg ns ew m) (S (ampSpec (taper cfg.width vt) n))) := by
  rcases smoothByName_rowMap cfg.op cfg.bw (rfftfreq n dt) cfg.fcs with ⟨e, he⟩ | ⟨S, hS, hlin⟩
  · refine Or.inl ⟨e, he, fun m deg ns ew vt => ?_⟩
    cases m <;> simp only [hvsrRow, smoothRows, he]
  · refine Or.inr ⟨S, hS, hlin, fun m deg ns ew vt => ?_⟩
    cases m with
    | combine _ | singleAz _ => simp only [hvsrRow, smoothRows, hS, horiz, List.map_cons, List.map_nil]
    | rotdpp pct azs =>
      -- the smoothed vertical is the last row, the smoothed azimuth spectra are the rows before it
      simp only [hvsrRow, smoothRows, hS, horiz, List.map_append, List.map_map, List.map_cons, List.map_nil,
        List.getLastD_concat, List.dropLast_concat, Function.comp_def]

/-- a record enters its curve only through the time step, the vertical and the smoothed horizontal curve `horiz` -/
theorem hvsrRow_congr (cfg : ProcCfg ℝ) (n : ℕ) {m m' : Method ℝ} {r r' : Rec3 ℝ} (hdt : r.dt = r'.dt) (hvt : r.vt = r'.vt)
    (h : ∀ S, horiz S cfg n r.deg r.ns r.ew m = horiz S cfg n r'.deg r'.ns r'.ew m') :
    hvsrRow m cfg n r = hvsrRow m' cfg n r' := by
  obtain ⟨dt, deg, ns, ew, vt⟩ := r
  obtain ⟨dt', deg', ns', ew', vt'⟩ := r'
  cases hdt; cases hvt
  rcases hvsrRow_cases cfg n dt with ⟨e, -, he⟩ | ⟨S, -, -, hr⟩
  · rw [he, he]
  · rw [hr, hr, h S]

theorem horiz_scale {S : List ℝ → List ℝ} {len : ℕ} (hS : RowMap S len) (a : ℝ) (ha : a ≠ 0) (cfg : ProcCfg ℝ) (n : ℕ)
    (deg : ℝ) (ns ew : List ℝ) (m : Method ℝ) :
    horiz S cfg n deg (ns.map (a * ·)) (ew.map (a * ·)) m = (horiz S cfg n deg ns ew m).map (|a| * ·) := by
  cases m with
  | combine c =>
    simp only [horiz, taper_homog, ampSpec_homog, zip_map_combine_homog c |a| (abs_nonneg a), hS.homog]
  | singleAz az => simp only [horiz, singleAzSeries_scale, taper_homog, ampSpec_homog, hS.homog]
  | rotdpp pct azs =>
    simp only [horiz, singleAzSeries_scale, taper_homog, ampSpec_homog, hS.homog]
    rw [columnsOf_scale, List.map_map, List.map_map]
    exact List.map_congr_left fun col _ => percentile_scale |a| (abs_pos.mpr ha) col pct

/-! ### The scale law and its corollaries -/

/-- **Linear in the horizontals, inverse in the vertical, every method.** Multiplying both horizontals by `a ≠ 0` and the
vertical by `b ≠ 0` multiplies every value of the HVSR curve by `|a| / |b|` and changes no refusal. -/
theorem hvsr_scale_ab_all (m : Method ℝ) (cfg : ProcCfg ℝ) (n : ℕ) (r : Rec3 ℝ) (a b : ℝ) (ha : a ≠ 0) (hb : b ≠ 0) :
    hvsrRow m cfg n { r with ns := r.ns.map (a * ·), ew := r.ew.map (a * ·), vt := r.vt.map (b * ·) }
      = (hvsrRow m cfg n r).map (fun row => row.map (|a| / |b| * ·)) := by
  obtain ⟨dt, deg, ns, ew, vt⟩ := r
  rcases hvsrRow_cases cfg n dt with ⟨e, -, he⟩ | ⟨S, -, hS, hr⟩
  · rw [he, he]; rfl
  · rw [hr, hr]
    simp only [horiz_scale hS a ha, taper_homog, ampSpec_homog, hS.homog]
    exact ratioRow_scale_ab |a| |b| (abs_pos.mpr ha) (abs_pos.mpr hb) _ _

def scaleRec (a : ℝ) (r : Rec3 ℝ) : Rec3 ℝ :=
  { r with ns := r.ns.map (a * ·), ew := r.ew.map (a * ·), vt := r.vt.map (a * ·) }

/-- **Unchanged under a common factor, every method.** -/
theorem hvsr_scale_invariant_all (m : Method ℝ) (cfg : ProcCfg ℝ) (n : ℕ) (r : Rec3 ℝ) (a : ℝ) (ha : 0 < a) :
    hvsrRow m cfg n (scaleRec a r) = hvsrRow m cfg n r := by
  rw [scaleRec, hvsr_scale_ab_all m cfg n r a a ha.ne' ha.ne', div_self (abs_pos.mpr ha.ne').ne', except_map_one_mul]

/-- **Linear in the horizontals, inverse in the vertical.** Multiplying both horizontals by `a > 0` and the vertical
by `b > 0` multiplies every value of the HVSR curve by `a / b` and changes no refusal — for every frequency-domain
combination, smoothing operator, taper width and FFT length. (`a = b` is `hvsr_scale_invariant`.) -/
theorem hvsr_scale_ab (m : Combine) (cfg : ProcCfg ℝ) (n : ℕ) (r : Rec3 ℝ) (a b : ℝ) (ha : 0 < a) (hb : 0 < b) :
    hvsrRow (.combine m) cfg n { r with ns := r.ns.map (a * ·), ew := r.ew.map (a * ·), vt := r.vt.map (b * ·) }
      = (hvsrRow (.combine m) cfg n r).map (fun row => row.map (a / b * ·)) := by
  rw [hvsr_scale_ab_all _ cfg n r a b ha.ne' hb.ne', abs_of_pos ha, abs_of_pos hb]

/-- **Unchanged under a common factor.** Multiplying all three components of a record by one factor `a > 0` leaves
its HVSR curve unchanged, for every frequency-domain combination, every smoothing operator (including the
refusals), every taper width and FFT length. -/
theorem hvsr_scale_invariant (m : Combine) (cfg : ProcCfg ℝ) (n : ℕ) (r : Rec3 ℝ) (a : ℝ) (ha : 0 < a) :
    hvsrRow (.combine m) cfg n { r with ns := r.ns.map (a * ·), ew := r.ew.map (a * ·), vt := r.vt.map (a * ·) }
      = hvsrRow (.combine m) cfg n r :=
  hvsr_scale_invariant_all (.combine m) cfg n r a ha

/-! ### Flat curves of proportional components -/

/-- a returned curve whose smoothed horizontal curve and smoothed vertical are `K·Y` and `|C|·Y` is flat at `K / |C|` -/
theorem hvsr_flat {cfg : ProcCfg ℝ} {n : ℕ} {r : Rec3 ℝ} (s : List ℝ) (C : ℝ) (hvt : r.vt = s.map (C * ·))
    {m : Method ℝ} {K : ℝ} {row : List ℝ} (h : hvsrRow m cfg n r = .ok row)
    (hK : ∀ S : List ℝ → List ℝ, (∀ rows, smoothRows cfg n r.dt rows = .ok (rows.map S)) → RowMap S cfg.fcs.length →
      horiz S cfg n r.deg r.ns r.ew m = (S (ampSpec (taper cfg.width s) n)).map (K * ·)) :
    ∀ q ∈ row, q = K / |C| := by
  obtain ⟨dt, deg, ns, ew, vt⟩ := r
  subst hvt
  rcases hvsrRow_cases cfg n dt with ⟨e, -, he⟩ | ⟨S, hS, hlin, hr⟩
  · rw [he] at h; cases h
  · rw [hr, hK S hS hlin, taper_homog, ampSpec_homog, hlin.homog] at h
    exact ratioRow_same _ _ _ row h

/-- **Proportional components give a flat curve at the closed-form value.** With `ns = A·s`, `ew = B·s`, `vt = C·s`
(`C ≠ 0`), whenever a curve is returned every value equals
`combine(|A|, |B|) / |C|` — see `combine_closed_form` for the value of `combine` per method — for every smoothing
operator, taper width and FFT length. -/
theorem hvsr_proportional_flat (m : Combine) (cfg : ProcCfg ℝ) (n : ℕ) (dt deg : ℝ) (s : List ℝ) (A B C : ℝ)
    (hC : C ≠ 0) (row : List ℝ)
    (h : hvsrRow (.combine m) cfg n
      { dt := dt, deg := deg, ns := s.map (A * ·), ew := s.map (B * ·), vt := s.map (C * ·) } = .ok row) :
    ∀ q ∈ row, q = m.apply |A| |B| / |C| :=
  hvsr_flat s C rfl h fun S _ hS => by
    simp only [horiz, taper_homog, ampSpec_homog, zip_map_combine_closed m |A| |B| _ (ampSpec_nonneg _ n), hS.homog]

/-- **Proportional components, single azimuth**: whenever a curve is returned every value is
`|A cos a + B sin a| / |C|`, `a` = the requested azimuth relative to the sensor's orientation. -/
theorem hvsr_proportional_singleAz (az : ℝ) (cfg : ProcCfg ℝ) (n : ℕ) (dt deg : ℝ) (s : List ℝ) (A B C : ℝ)
    (hC : C ≠ 0) (row : List ℝ)
    (h : hvsrRow (.singleAz az) cfg n
      { dt := dt, deg := deg, ns := s.map (A * ·), ew := s.map (B * ·), vt := s.map (C * ·) } = .ok row) :
    ∀ q ∈ row, q = |A * Real.cos (radians (az - deg)) + B * Real.sin (radians (az - deg))| / |C| :=
  hvsr_flat s C rfl h fun S _ hS => by
    simp only [horiz, singleAzSeries_proportional, taper_homog, ampSpec_homog, hS.homog]

/-- **Proportional components, RotDpp.** Every value of the RotDpp curve is the `p`-th percentile over the azimuths of
`|A cos a + B sin a|` (the single-azimuth closed forms) divided by `|C|`, for every smoothing operator whose smoothed
spectrum of `s` is positive at the centre frequencies (for Savitzky–Golay a negative smoothed value reverses the order of
the azimuth column, and the value returned is the `(100 − p)`-th percentile; the hypothesis `hpos` excludes exactly that
case). -/
theorem hvsr_proportional_rotdpp (pct : ℝ) (azs : List ℝ) (cfg : ProcCfg ℝ) (n : ℕ) (dt deg : ℝ) (s : List ℝ) (A B C : ℝ)
    (hC : C ≠ 0) (row : List ℝ)
    (h : hvsrRow (.rotdpp pct azs) cfg n
      { dt := dt, deg := deg, ns := s.map (A * ·), ew := s.map (B * ·), vt := s.map (C * ·) } = .ok row)
    (SX : List ℝ) (hSX : smoothRows cfg n dt [ampSpec (taper cfg.width s) n] = .ok [SX]) (hpos : ∀ y ∈ SX, 0 < y) :
    ∀ q ∈ row, q =
      percentile (azs.map (fun az => |A * Real.cos (radians (az - deg)) + B * Real.sin (radians (az - deg))|)) pct / |C| :=
  hvsr_flat s C rfl h fun S hS hlin => by
    have hSX' : S (ampSpec (taper cfg.width s) n) = SX := by
      rw [hS] at hSX; simpa using hSX
    simp only [horiz, singleAzSeries_proportional, taper_homog, ampSpec_homog, hlin.homog, hSX']
    -- the smoothed azimuth spectra are the multiples `k · SX`: their columns are the multiples `y · ks`, `y` in `SX`
    rw [← hlin.length (ampSpec (taper cfg.width s) n), hSX', columnsOf_outer, List.map_map]
    exact List.map_congr_left fun y hy => by rw [Function.comp, percentile_scale y (hpos y hy), mul_comm]

end HV.C01
