import HvsrVerif.Proofs.StatsLemmas
import HvsrVerif.Proofs.HvStateLemmas
/-!
# C05 — Statistics are the stated estimators over exactly the accepted windows

Model: `Model/Stats.lean`, `Model/HvState.lean`.
-/
namespace HV.C05

/-- normal mean = arithmetic mean of the defined values -/
theorem mean_normal_eq (vals : List ℝ) (h : vals ≠ []) :
    nanmeanW .normal (vals.map some) none = some (vals.sum / (vals.length : ℝ)) := by
  rw [nanmeanW_unweighted, somes_map_some]
  have : vals.length ≠ 0 := mt List.length_eq_zero_iff.mp h
  simp [this, Dist.postMean, pre_normal]

/-- lognormal "mean" = median = exp of the mean of the logs -/
theorem mean_lognormal_eq (vals : List ℝ) (h : vals ≠ []) :
    nanmeanW .lognormal (vals.map some) none = some (Real.exp ((vals.map Real.log).sum / (vals.length : ℝ))) := by
  rw [nanmeanW_unweighted, somes_map_some]
  have : vals.length ≠ 0 := mt List.length_eq_zero_iff.mp h
  simp only [this, if_false, Dist.postMean, exp_real, pre_lognormal]

/-- sample standard deviation with the `n − 1` denominator (normal) -/
theorem std_normal_eq (vals : List ℝ) (h : 2 ≤ vals.length) :
    nanstdW .normal (vals.map some) none .nist =
      some (Real.sqrt ((vals.map (fun x => (x - vals.sum / (vals.length : ℝ)) ^ 2)).sum / ((vals.length : ℝ) - 1))) := by
  rw [nanstdW_unweighted _ _ (by rw [somes_map_some]; exact h), somes_map_some]
  simp only [pre_normal, List.map_id']

/-- lognormal standard deviation = sample standard deviation of the logs (`n − 1`) -/
theorem std_lognormal_eq (vals : List ℝ) (h : 2 ≤ vals.length) :
    nanstdW .lognormal (vals.map some) none .nist =
      let ls := vals.map Real.log
      some (Real.sqrt ((ls.map (fun x => (x - ls.sum / (ls.length : ℝ)) ^ 2)).sum / ((ls.length : ℝ) - 1))) := by
  rw [nanstdW_unweighted _ _ (by rw [somes_map_some]; exact h), somes_map_some]
  simp only [pre_lognormal]

/-- windows without a peak (`none`) never enter the mean -/
theorem nopeak_excluded_mean (d : Dist) (vals : List (Option ℝ)) :
    nanmeanW d vals none = nanmeanW d ((somes vals).map some) none := by
  rw [nanmeanW_unweighted, nanmeanW_unweighted, somes_map_some]

/-- windows without a peak never enter the standard deviation -/
theorem nopeak_excluded_std (d : Dist) (vals : List (Option ℝ)) (h : 2 ≤ (somes vals).length) :
    nanstdW d vals none .nist = nanstdW d ((somes vals).map some) none .nist := by
  rw [nanstdW_unweighted_eq, nanstdW_unweighted_eq, somes_map_some]

/-- **Frame property.** Two objects that agree on the frequencies, the search range, the accepted curves and
the peaks of the windows with a valid peak have the same value of every statistic — whatever the rejected rows,
their peaks and the mask layout are. -/
theorem stats_frame (s t : HvTrad ℝ) (d : Dist) (n : ℝ)
    (hf : s.freq = t.freq) (hr : s.range = t.range) (hrows : s.validRows = t.validRows)
    (hpf : s.peakFreqs = t.peakFreqs) (hpa : s.peakAmps = t.peakAmps) :
    s.meanFn d = t.meanFn d ∧ s.stdFn d = t.stdFn d ∧ s.meanAmp d = t.meanAmp d ∧ s.stdAmp d = t.stdAmp d ∧
    s.meanCurve d = t.meanCurve d ∧ s.stdCurve d = t.stdCurve d ∧ s.meanCurvePeak d = t.meanCurvePeak d ∧
    s.nthStdFn n d = t.nthStdFn n d ∧ s.nthStdAmp n d = t.nthStdAmp n d ∧ s.covFn d = t.covFn d := by
  simp only [HvTrad.meanFn, HvTrad.stdFn, HvTrad.meanAmp, HvTrad.stdAmp, HvTrad.meanCurve, HvTrad.stdCurve, HvTrad.meanCurvePeak,
    HvTrad.nthStdFn, HvTrad.nthStdAmp, HvTrad.covFn, hf, hr, hrows, hpf, hpa, and_self]

/-- the object built from the accepted windows alone -/
def restrict (s : HvTrad ℝ) : HvTrad ℝ :=
  { freq := s.freq, rows := maskSel s.rows s.vWin, range := s.range, peaks := maskSel s.peaks s.vPeak,
    vWin := (maskSel s.rows s.vWin).map (fun _ => true), vPeak := (maskSel s.peaks s.vPeak).map (fun _ => true) }

/-- **Restriction.** Every statistic equals that of the object that holds the accepted windows only:
rejected windows never influence any statistic. -/
theorem stats_restrict (s : HvTrad ℝ) (d : Dist) (n : ℝ) :
    s.meanFn d = (restrict s).meanFn d ∧ s.stdFn d = (restrict s).stdFn d ∧
    s.meanAmp d = (restrict s).meanAmp d ∧ s.stdAmp d = (restrict s).stdAmp d ∧
    s.meanCurve d = (restrict s).meanCurve d ∧ s.stdCurve d = (restrict s).stdCurve d ∧
    s.meanCurvePeak d = (restrict s).meanCurvePeak d ∧
    s.nthStdFn n d = (restrict s).nthStdFn n d ∧ s.nthStdAmp n d = (restrict s).nthStdAmp n d ∧
    s.covFn d = (restrict s).covFn d := by
  refine stats_frame s (restrict s) d n rfl rfl (maskSel_true _).symm ?_ ?_
  · unfold HvTrad.peakFreqs restrict; simp only [maskSel_map, maskSel_true]
  · unfold HvTrad.peakAmps restrict; simp only [maskSel_map, maskSel_true]

theorem map_log_inv (vals : List ℝ) :
    (vals.map (fun v => 1 / v)).map Real.log = (vals.map Real.log).map (fun x => -x) := by
  rw [List.map_map, List.map_map]
  exact List.map_congr_left fun v _ => by rw [Function.comp, Function.comp, one_div, Real.log_inv]

/-- the lognormal median of the periods `1/f` is the reciprocal of the median of `f` -/
theorem reciprocal_median (vals : List ℝ) (h : vals ≠ []) :
    nanmeanW .lognormal ((vals.map (fun v => 1 / v)).map some) none =
      (nanmeanW .lognormal (vals.map some) none).map (fun m => 1 / m) := by
  rw [mean_lognormal_eq _ h, mean_lognormal_eq _ (mt List.map_eq_nil_iff.mp h), map_log_inv, List.length_map, ← List.sum_neg, neg_div,
    Real.exp_neg, Option.map_some, one_div]

/-- … with the same log-standard deviation -/
theorem reciprocal_sigma (vals : List ℝ) (h : 2 ≤ vals.length) :
    nanstdW .lognormal ((vals.map (fun v => 1 / v)).map some) none .nist =
      nanstdW .lognormal (vals.map some) none .nist := by
  rw [std_lognormal_eq _ h, std_lognormal_eq _ ((List.length_map _).symm ▸ h)]
  simp only [map_log_inv]
  generalize vals.map Real.log = L
  simp only [List.length_map, List.map_map, ← List.sum_neg]
  congr 4
  exact List.map_congr_left fun v _ => by rw [Function.comp]; ring

/-- the `+n` and `−n` values are symmetric about the median in log space -/
theorem nth_symmetric (n mean std : ℝ) (hm : 0 < mean) :
    nthStd n .lognormal mean std * nthStd (-n) .lognormal mean std = mean ^ 2 := by
  unfold nthStd
  simp only [exp_real, log_real]
  -- the exponents add up to `2 · log mean`
  rw [← Real.exp_add, neg_mul, add_add_add_comm, add_neg_cancel, add_zero, Real.exp_add, Real.exp_log hm, pow_two]

theorem nth_normal (n mean std : ℝ) : nthStd n .normal mean std = mean + n * std := rfl

/-- every alias of `DISTRIBUTION_MAP` selects the estimator of its canonical name -/
theorem distribution_alias :
    Dist.ofString "log-normal" = some .lognormal ∧ Dist.ofString "lognormal" = some .lognormal ∧
    Dist.ofString "normal" = some .normal := by decide +kernel

/-! ### Non-vacuity -/
example : (2 : ℕ) ≤ ([1.5, 2.5, 2.0] : List ℝ).length := by decide
example : maskSel [10, 20, 30, 40] [true, false, true, false] = [10, 30] := by decide

end HV.C05
