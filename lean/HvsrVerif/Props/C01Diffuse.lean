import HvsrVerif.Props.C01Laws
import HvsrVerif.Props.C17
/-!
# C01 (continued) — closed form for proportional components under the diffuse-field method

`psdComponent_scale`: the Welch-averaged one-sided PSD of any number of windows scales with the square of a common
amplitude factor (the single-window case is `C17.psd_scale_single`).
`hvsr_proportional_diffuse`: with `ns = A·sᵢ`, `ew = B·sᵢ`, `vt = C·sᵢ` for every window `i` (each window its own
signal `sᵢ`), whenever a diffuse-field curve is returned every value equals `√((A² + B²)/C²) = √(A² + B²)/|C|` — the value
of the total-horizontal-energy combination — for every smoothing operator, taper and FFT length.
-/
namespace HV.C01

theorem zip_add_scale (f : ℝ) (a b : List ℝ) :
    (List.zip (a.map (f * ·)) (b.map (f * ·))).map (fun p => p.1 + p.2) = ((List.zip a b).map (fun p => p.1 + p.2)).map (f * ·) :=
  zip_map_lift (fun x y => (mul_add f x y).symm) a b

theorem zip_add_two (a b : ℝ) (P : List ℝ) :
    (List.zip (P.map (a * ·)) (P.map (b * ·))).map (fun p => p.1 + p.2) = P.map ((a + b) * ·) :=
  zip_map_diag P fun x _ => (add_mul a b x).symm

/-- the accumulation loop of `_rpds_single_component` commutes with a common factor -/
theorem psd_fold_scale (width c : ℝ) (n : ℕ) (wins : List (List ℝ)) (acc : List ℝ) :
    (wins.map (fun x => x.map (c * ·))).foldl
        (fun acc x => (List.zip acc (powSpec (taper width x) n)).map (fun p => p.1 + p.2)) (acc.map (c ^ 2 * ·)) =
      (wins.foldl (fun acc x => (List.zip acc (powSpec (taper width x) n)).map (fun p => p.1 + p.2)) acc).map (c ^ 2 * ·) := by
  induction wins generalizing acc with
  | nil => rfl
  | cons x xs ih =>
    simp only [List.map_cons, List.foldl_cons, taper_homog, C17.powSpec_scale, zip_add_scale]
    exact ih _

/-- **The PSD of any number of windows scales with the square of the amplitude.** -/
theorem psdComponent_scale (width dt c : ℝ) (n : ℕ) (wins : List (List ℝ)) :
    psdComponent width n dt (wins.map (fun x => x.map (c * ·))) = (psdComponent width n dt wins).map (c ^ 2 * ·) := by
  unfold psdComponent
  have hlast : ((wins.map (fun x => x.map (c * ·))).getLastD []).length = (wins.getLastD []).length :=
    (congrArg List.length (List.getLastD_map (f := fun x : List ℝ => x.map (c * ·)) (a := []))).trans (List.length_map _)
  have hfold := psd_fold_scale width c n wins (List.replicate (n / 2 + 1) (Arith.ofNat 0 : ℝ))
  rw [List.map_replicate, ofNat_real, Nat.cast_zero, mul_zero] at hfold
  rw [hlast, List.length_map, ofNat_real, Nat.cast_zero, hfold, List.map_map, List.map_map]
  exact List.map_congr_left fun p _ => by simp only [Function.comp, mul_div_assoc, mul_assoc]

def propRec (A B C : ℝ) (w : ℝ × ℝ × List ℝ) : Rec3 ℝ :=
  { dt := w.1, deg := w.2.1, ns := w.2.2.map (A * ·), ew := w.2.2.map (B * ·), vt := w.2.2.map (C * ·) }

theorem propRec_comps (A B C : ℝ) (kw : List (ℝ × ℝ × List ℝ)) :
    (kw.map (propRec A B C)).map (·.ns) = (kw.map (·.2.2)).map (·.map (A * ·)) ∧
    (kw.map (propRec A B C)).map (·.ew) = (kw.map (·.2.2)).map (·.map (B * ·)) ∧
    (kw.map (propRec A B C)).map (·.vt) = (kw.map (·.2.2)).map (·.map (C * ·)) := by
  simp only [List.map_map, Function.comp_def, propRec, and_self]

/-- **Proportional components, diffuse field.** -/
theorem hvsr_proportional_diffuse (cfg : ProcCfg ℝ) (fft : FftState) (pol : Policy) (wins : List (ℝ × ℝ × List ℝ))
    (A B C : ℝ) (hC : C ≠ 0) (st : FftState) (kept : List ℕ) (row : List ℝ)
    (h : processDiffuse cfg fft pol (wins.map (propRec A B C)) = .ok (st, kept, row)) :
    ∀ q ∈ row, q = Real.sqrt ((A ^ 2 + B ^ 2) / C ^ 2) := by
  obtain ⟨n, r0, rest, sh, sv, q, -, -, hk, hs, hq, rfl⟩ := C17.diffuse_def cfg fft pol _ st kept row h
  rw [filterMap_getElem_map] at hk
  obtain ⟨hns, hew, hvt⟩ := propRec_comps A B C (kept.filterMap (fun i => wins[i]?))
  rw [← hk, hns, hew, hvt, psdComponent_scale, psdComponent_scale, psdComponent_scale, zip_add_two] at hs
  rcases hvsrRow_cases cfg n r0.dt with ⟨e, he, -⟩ | ⟨S, hS, hlin, -⟩
  · rw [he] at hs; cases hs
  · rw [hS] at hs
    simp only [List.map_cons, List.map_nil, hlin.homog, Except.ok.injEq, List.cons.injEq, and_true] at hs
    obtain ⟨rfl, rfl⟩ := hs
    intro y hy
    obtain ⟨x, hx, rfl⟩ := List.mem_map.mp hy
    rw [ratioRow_same _ _ _ q hq x hx]

/-- the value in the usual form: `√(A² + B²)/|C|`, i.e. the total-horizontal-energy combination of `|A|, |B|` over `|C|` -/
theorem diffuse_closed_form_value (A B C : ℝ) :
    Real.sqrt ((A ^ 2 + B ^ 2) / C ^ 2) = Real.sqrt (A ^ 2 + B ^ 2) / |C| := by
  rw [Real.sqrt_div' _ (sq_nonneg C), Real.sqrt_sq_eq_abs]

end HV.C01
