import HvsrVerif.Proofs.ListLemmas
import HvsrVerif.Proofs.ExceptLemmas
import HvsrVerif.Model.TimeRej
/-!
# C13 — Time-domain rejection keeps exactly the windows that satisfy the criterion

Model: `Model/TimeRej.lean`.
-/
namespace HV.C13

/-- the returned list is the selected windows: same objects, original order -/
theorem applyMask_sublist {β} (wins : List β) (mask : List Bool) : (applyMask wins mask).Sublist wins := by
  unfold applyMask
  induction wins generalizing mask with
  | nil => simp
  | cons w ws ih =>
    cases mask with
    | nil => simp
    | cons b bs =>
      simp only [List.zip_cons_cons, List.filterMap_cons]
      cases b
      · simp only [Bool.false_eq_true, ↓reduceIte]; exact (ih bs).cons _
      · simp only [↓reduceIte]; exact (ih bs).cons_cons _

theorem applyMask_eq_filter {β} (wins : List β) (keep : β → Bool) :
    applyMask wins (wins.map keep) = wins.filter keep := by
  unfold applyMask
  induction wins with
  | nil => rfl
  | cons w ws ih =>
    simp only [List.map_cons, List.zip_cons_cons, List.filterMap_cons, List.filter_cons]
    cases keep w <;> simp [ih]

/-- **Locality.** The mask is computed window by window: entry `i` is the decision for window `i` alone. -/
theorem stalta_local (nsta nlta : Nat) (lo hi : ℝ) (wins : List (List (List ℝ))) (m : List Bool)
    (h : staLtaMask nsta nlta lo hi wins = .ok m) :
    m.length = wins.length ∧ ∀ (i : Nat) w, wins[i]? = some w → ∃ b, m[i]? = some b ∧ staLtaKeep nsta nlta lo hi w = .ok b := by
  have h := mapM_eq_ok _ _ _ h
  refine ⟨by simpa using (congrArg List.length h).symm, fun i w hi => ?_⟩
  have := congrArg (·[i]?) h
  simp only [List.getElem?_map, hi, Option.map_some] at this
  obtain ⟨b, hb, hk⟩ := Option.map_eq_some_iff.mp this.symm
  exact ⟨b, hb, hk.symm⟩

/-- **The criterion.** A component passes iff every STA/LTA ratio lies in `[lo, hi]`: a ratio clearly inside the
limits never rejects, a ratio above `hi` or below `lo` always does. -/
theorem ratiosOk_iff (lo hi : ℝ) (r : List ℝ) : ratiosOk lo hi r = true ↔ ∀ x ∈ r, lo ≤ x ∧ x ≤ hi := by
  cases r with
  | nil => simp [ratiosOk, maxL', minL']
  | cons a t =>
    simp only [ratiosOk, maxL', minL', Bool.not_eq_eq_eq_not, Bool.not_true, Bool.or_eq_false_iff,
      decide_eq_false_iff_not, not_lt, List.mem_cons, forall_eq_or_imp]
    rw [foldl_maxA_le_iff, le_foldl_minA_iff, forall₂_and]
    tauto

theorem staLtaKeep_cons (nsta nlta : Nat) (lo hi : ℝ) (c : List ℝ) (cs : List (List ℝ)) :
    staLtaKeep nsta nlta lo hi (c :: cs) =
      staLtaRatios nsta nlta c >>= fun r => if ratiosOk lo hi r then staLtaKeep nsta nlta lo hi cs else .ok false := by
  rw [staLtaKeep]; cases staLtaRatios nsta nlta c <;> rfl

/-- **Widening the limits can only turn reject into keep.** -/
theorem stalta_widen (nsta nlta : Nat) (lo hi lo' hi' : ℝ) (hlo : lo' ≤ lo) (hhi : hi ≤ hi') (w : List (List ℝ))
    (h : staLtaKeep nsta nlta lo hi w = .ok true) : staLtaKeep nsta nlta lo' hi' w = .ok true := by
  induction w with
  | nil => rfl
  | cons c cs ih =>
    rw [staLtaKeep_cons, bind_eq_ok] at h ⊢
    obtain ⟨r, hr, h⟩ := h
    refine ⟨r, hr, ?_⟩
    split_ifs at h with hok
    · rw [ratiosOk_iff] at hok
      rw [if_pos ((ratiosOk_iff ..).mpr fun x hx => ⟨hlo.trans (hok x hx).1, (hok x hx).2.trans hhi⟩)]
      exact ih h
    · cases h

/-- **Several components = conjunction** (the early `break` is a short-circuit `and`). -/
theorem stalta_components (nsta nlta : Nat) (lo hi : ℝ) (A B : List (List ℝ)) (a b : Bool)
    (hA : staLtaKeep nsta nlta lo hi A = .ok a) (hB : staLtaKeep nsta nlta lo hi B = .ok b) :
    staLtaKeep nsta nlta lo hi (A ++ B) = .ok (a && b) := by
  induction A with
  | nil => cases hA; exact hB
  | cons c cs ih =>
    simp only [List.cons_append, staLtaKeep_cons, bind_eq_ok] at hA ⊢
    obtain ⟨r, hr, hA⟩ := hA
    refine ⟨r, hr, ?_⟩
    split_ifs at hA ⊢
    · exact ih hA
    · cases hA; rfl

theorem meanAbs_scale (c : ℝ) (x : List ℝ) : meanAbs (x.map (c * ·)) = |c| * meanAbs x := by
  unfold meanAbs
  simp only [sumA_real, List.map_map, List.length_map, ofNat_real, Function.comp_def, funext absA_real, abs_mul,
    List.sum_map_mul_left, mul_div_assoc]

theorem chunks_map (k m : Nat) (x : List ℝ) (f : ℝ → ℝ) : chunks k m (x.map f) = (chunks k m x).map (List.map f) := by
  induction m generalizing x with
  | zero => rfl
  | succ m ih => simp only [chunks, List.map_cons, ← List.map_take, ← List.map_drop, ih]

/-- **A common rescaling of the amplitudes leaves every ratio unchanged** (hence every decision), provided the
long-term average is not zero. -/
theorem stalta_scale (nsta nlta : Nat) (c : ℝ) (hc : c ≠ 0) (x : List ℝ)
    (hl : meanAbs ((x.take (nsta * (x.length / nsta))).take nlta) ≠ 0) :
    staLtaRatios nsta nlta (x.map (c * ·)) = staLtaRatios nsta nlta x := by
  have hdiv : ∀ a : ℝ, |c| * a / (|c| * meanAbs ((x.take (nsta * (x.length / nsta))).take nlta))
      = a / meanAbs ((x.take (nsta * (x.length / nsta))).take nlta) :=
    fun a => mul_div_mul_left _ _ (abs_ne_zero.mpr hc)
  simp only [staLtaRatios, List.length_map, ← List.map_take, chunks_map, List.map_map, meanAbs_scale, Function.comp_def, hdiv]

/-- `Model/TimeRej` has its own copy `maxL'` of `Model/Sesame`'s `maxL`; through this the `maxL` lemmas apply -/
theorem maxL'_eq_maxL (l : List ℝ) : maxL' l = maxL l := by cases l <;> rfl

theorem windowMaxStep_lt_iff (m0 : ℝ) (c : List ℝ) (thr : ℝ) :
    windowMaxStep m0 c < thr ↔ m0 < thr ∧ ∀ x ∈ c, |x| < thr := by
  unfold windowMaxStep
  cases h : maxL' (c.map absA) with
  | none =>
    rw [maxL'_eq_maxL, maxL_none_iff, List.map_eq_nil_iff] at h
    simp [h]
  | some cm =>
    have := maxL_lt_iff (maxL'_eq_maxL _ ▸ h) thr
    simp only [List.forall_mem_map, absA_real] at this
    change maxA m0 cm < thr ↔ _
    rw [maxA_real, max_lt_iff, this]

theorem windowMax_lt_iff (w : List (List ℝ)) (thr : ℝ) :
    windowMax w < thr ↔ 0 < thr ∧ ∀ c ∈ w, ∀ x ∈ c, |x| < thr := by
  rw [windowMax, ofNat_real, Nat.cast_zero]
  exact foldl_and_iff (P := (· < thr)) (fun m c => windowMaxStep_lt_iff m c thr) w 0

theorem maxValueMask_false (thr : ℝ) (wins : List (List (List ℝ))) :
    maxValueMask thr false wins = wins.map fun w => decide (windowMax w < thr) := by
  simp only [maxValueMask, Bool.false_eq_true, ↓reduceIte, List.map_map, Function.comp_def]

theorem maxValueMask_true (thr : ℝ) (wins : List (List (List ℝ))) {g : ℝ}
    (hg : maxL' ((wins.map windowMax).map absA) = some g) :
    maxValueMask thr true wins = wins.map fun w => decide (windowMax w / g < thr) := by
  simp only [maxValueMask, hg]
  simp only [↓reduceIte, List.map_map, Function.comp_def]

/-- **Maximum-value rejection (absolute threshold)** keeps a window iff its largest absolute sample over the
examined components is below the threshold. -/
theorem maxvalue_iff (thr : ℝ) (wins : List (List (List ℝ))) (i : Nat) (w : List (List ℝ)) (hw : wins[i]? = some w) :
    (maxValueMask thr false wins)[i]? = some (decide (0 < thr ∧ ∀ c ∈ w, ∀ x ∈ c, |x| < thr)) := by
  rw [maxValueMask_false, List.getElem?_map, hw]
  exact congrArg some (decide_eq_decide.mpr (windowMax_lt_iff w thr))

/-! ### Non-vacuity -/
example : staLtaRatios 2 4 ([1, -1, 2, -2, 4, -4] : List Int) = .ok [1, 2, 4] := by decide +kernel
example : staLtaKeep 2 4 (1 : Int) 4 [[1, -1, 2, -2, 4, -4]] = .ok true ∧ staLtaKeep 2 4 (1 : Int) 3 [[1, -1, 2, -2, 4, -4]] = .ok false := by decide +kernel
example : maxValueMask (3 : Int) false [[[1, -2]], [[1, -3]]] = [true, false] := by decide +kernel
example : nptsExact 1 (1/100) = 100 := by decide +kernel

end HV.C13
