import HvsrVerif.Props.C11Order
/-!
# C11 (continued) — equal counts, order of the azimuths, covariance diagonal

* `equal_counts_weights` / `equal_counts_mean` / `equal_counts_std` — with equally many accepted windows on every
  azimuth all Cheng weights are `1/N` (`N` = number of pooled windows) and the weighted mean and standard deviation
  equal the unweighted (`N − 1`) statistics of the pooled windows;
* `mean_azimuth_order` — the weighted mean does not depend on the order of the azimuths (any permutation);
* `cov_diag_is_std_sq` — for weights that sum to one the variance numpy's `cov(aweights=w)` puts on the diagonal is
  the square of the Cheng standard deviation (`1 − Σw²` normalisation on both sides).
-/
namespace HV.C11

theorem flatMap_length_const (n : ℕ) (gs : List (List ℝ)) (hg : ∀ g ∈ gs, g.length = n) :
    (gs.flatMap (fun g => g)).length = gs.length * n := by
  rw [List.length_flatMap, List.map_congr_left hg, List.map_const', List.sum_replicate, smul_eq_mul]

/-- **Equal counts ⇒ equal weights.** With `n` accepted windows on each of the azimuths every weight is one over
the number of pooled windows. -/
theorem equal_counts_weights (groups : List (List ℝ)) (n : ℕ) (h : ∀ g ∈ groups, g.length = n) :
    groupWeights groups.length groups =
      List.replicate (groups.flatMap (fun g => g)).length (1 / (((groups.flatMap (fun g => g)).length : ℕ) : ℝ)) := by
  refine List.eq_replicate_iff.mpr ⟨groupWeights_length _ _, fun w hw => ?_⟩
  obtain ⟨g, hg, hw⟩ := List.mem_flatMap.mp hw
  rw [(List.mem_replicate.mp hw).2, h g hg, flatMap_length_const n groups h]

/-- **Equal counts: the weighted mean is the unweighted mean of the pooled windows** (both distributions). -/
theorem equal_counts_mean (d : Dist) (groups : List (List ℝ)) (n : ℕ) (hn : 1 ≤ n) (hne : groups ≠ [])
    (h : ∀ g ∈ groups, g.length = n) :
    nanmeanW d ((groups.flatMap (fun g => g)).map some) (some (groupWeights groups.length groups)) =
      nanmeanW d ((groups.flatMap (fun g => g)).map some) none := by
  rw [equal_counts_weights groups n h]
  apply single_azimuth_mean
  rw [← List.length_pos_iff, flatMap_length_const n groups h]
  exact Nat.mul_pos (List.length_pos_iff.mpr hne) hn

/-- **Equal counts: the Cheng standard deviation is the `N − 1` standard deviation of the pooled windows.** -/
theorem equal_counts_std (d : Dist) (groups : List (List ℝ)) (n : ℕ) (h2 : 2 ≤ (groups.flatMap (fun g => g)).length)
    (h : ∀ g ∈ groups, g.length = n) :
    nanstdW d ((groups.flatMap (fun g => g)).map some) (some (groupWeights groups.length groups)) .cheng =
      nanstdW d ((groups.flatMap (fun g => g)).map some) none .nist := by
  rw [equal_counts_weights groups n h]
  exact single_azimuth_std d _ h2

/-- **The order of the azimuths is irrelevant**: any permutation of the azimuths (each keeping its own windows)
gives the same weighted mean. -/
theorem mean_azimuth_order (d : Dist) (groups groups' : List (List ℝ)) (hp : groups.Perm groups') (hne : groups ≠ [])
    (h : ∀ g ∈ groups, g ≠ []) :
    nanmeanPre d ((groups.flatMap (fun g => g)).map some) (some (groupWeights groups.length groups)) =
      nanmeanPre d ((groups'.flatMap (fun g => g)).map some) (some (groupWeights groups'.length groups')) := by
  rw [← hp.length_eq]
  exact (pooled_perm d groups.length groups groups' (hp.flatMap_right _)).1

/-- the windows of one azimuth may be reordered too -/
theorem mean_window_order (d : Dist) (g g' : List ℝ) (rest : List (List ℝ)) (hp : g.Perm g') (hg : g ≠ [])
    (h : ∀ x ∈ rest, x ≠ []) :
    nanmeanPre d (((g :: rest).flatMap (fun g => g)).map some) (some (groupWeights (g :: rest).length (g :: rest))) =
      nanmeanPre d (((g' :: rest).flatMap (fun g => g)).map some) (some (groupWeights (g' :: rest).length (g' :: rest))) := by
  refine (pooled_perm d _ (g :: rest) (g' :: rest) ?_).1
  rw [List.flatMap_cons, List.flatMap_cons, ← hp.length_eq]
  exact (hp.map _).append_right _

/-- the Cheng variance is not negative: `Σ w² ≤ Σ w = 1` because every weight lies in `[0, 1]` -/
theorem cheng_var_nonneg (xs ws : List ℝ) (g : ℝ → ℝ) (hsum : ws.sum = 1) (hw : ∀ w ∈ ws, 0 ≤ w) :
    0 ≤ ((List.zip xs ws).map (fun p => p.2 * (g p.1 * g p.1))).sum / (1 - (ws.map (fun w => w * w)).sum) := by
  have hsq : (ws.map (fun w => w * w)).sum ≤ (ws.map (fun w => w)).sum :=
    List.sum_le_sum fun w hw' => mul_le_of_le_one_left (hw w hw') (hsum ▸ List.single_le_sum hw w hw')
  rw [List.map_id', hsum] at hsq
  exact div_nonneg (sum_map_nonneg _ _ fun p hp => mul_nonneg (hw p.2 (List.of_mem_zip hp).2) (mul_self_nonneg _))
    (sub_nonneg.mpr hsq)

/-- **Covariance diagonal = squared standard deviation.** For non-negative weights summing to one (the Cheng weights:
`weights_sum_one`), whenever numpy's weighted covariance and the Cheng standard deviation are both defined, the
variance on the diagonal is the square of the standard deviation. -/
theorem cov_diag_is_std_sq (d : Dist) (vals ys ws : List ℝ) (hsum : ws.sum = 1) (hw : ∀ w ∈ ws, 0 ≤ w)
    (a b c s : ℝ) (hcov : cov2 (vals.map d.pre) ys (some ws) = some (a, b, c))
    (hstd : nanstdW d (vals.map some) (some ws) .cheng = some s) : a = s ^ 2 := by
  rw [nanstdW_weighted, nanmeanPre_weighted, hsum, divO_real, if_neg one_ne_zero, div_one, Option.bind_some, divO_real] at hstd
  split at hstd
  · cases hstd
  · rename_i hden
    unfold cov2 at hcov
    simp only [sumA_real, divO_real, hsum, one_ne_zero, if_false, div_one, hden, List.zip_map_left, List.map_map] at hcov
    rw [← (Prod.mk.inj (Option.some.inj hcov)).1, ← Option.some.inj hstd]
    exact (Real.sq_sqrt (cheng_var_nonneg vals ws (fun x => d.pre x - _) hsum hw)).symm

end HV.C11
