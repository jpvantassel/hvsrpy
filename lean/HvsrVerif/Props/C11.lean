import HvsrVerif.Proofs.StatsLemmas
/-!
# C11 — Azimuthal statistics give every azimuth equal weight (Cheng et al. 2020)

Model: `Model/HvAz.lean`, `Model/Stats.lean`. The theorems speak of `groups`: per azimuth, the values of its valid peaks, all
defined; `groupWeights` are the weights the model computes from their counts (`chengWeightsFor_groups`), and `HvAz.meanFn` /
`stdFn` are by definition `nanmeanW` / `nanstdW` of the pooled peaks under `HvAz.weights`. The step from an `HvAz` state to
`groups` is not a theorem here: it holds when every valid peak is defined (finding C11-a is the case where one is not) and is
exercised by the correspondence (`harness/c11.py`; `Bridge/PyVec.py_az_mean_state` ties the translated accessors to `HvAz.meanFn`).
-/
namespace HV.C11

theorem chengWeightsFor_eq (naz : ℕ) (counts : List ℕ) :
    (chengWeightsFor naz counts : Except String (List ℝ)) =
      if 0 ∈ counts then .error "zerodiv"
      else .ok (counts.flatMap fun c => List.replicate c (1 / ((naz * c : ℕ) : ℝ))) := by
  induction counts with
  | nil => rfl
  | cons c cs ih =>
    unfold chengWeightsFor at ih ⊢
    rw [List.foldr_cons, ih]
    by_cases hcs : 0 ∈ cs
    · simp only [hcs, if_true, List.mem_cons, or_true]
    · by_cases hc : c = 0
      · simp only [hcs, hc, if_false, if_true, List.mem_cons, true_or]
      · simp only [hcs, hc, Ne.symm hc, if_false, List.mem_cons, or_self, List.flatMap_cons, ofNat_real, Nat.cast_one]

theorem sum_weights (naz : ℕ) (counts : List ℕ) (h : ∀ c ∈ counts, 1 ≤ c) :
    (counts.flatMap fun c => List.replicate c (1 / ((naz * c : ℕ) : ℝ))).sum = (counts.length : ℝ) / naz := by
  induction counts with
  | nil => rw [List.flatMap_nil, List.sum_nil, List.length_nil, Nat.cast_zero, zero_div]
  | cons c cs ih =>
    have hc : (c : ℝ) ≠ 0 := Nat.cast_ne_zero.mpr (Nat.one_le_iff_ne_zero.mp (h c List.mem_cons_self))
    have h1 : (List.replicate c (1 / ((naz * c : ℕ) : ℝ))).sum = 1 / naz := by
      rw [List.sum_replicate, nsmul_eq_mul, Nat.cast_mul, mul_one_div, mul_comm (naz : ℝ), div_mul_cancel_left₀ hc, inv_eq_one_div]
    rw [List.flatMap_cons, List.sum_append, ih fun x hx => h x (List.mem_cons_of_mem _ hx), h1, List.length_cons, Nat.cast_succ,
      add_div, add_comm]

/-- **The weights sum to one** (at least one accepted window on every azimuth), there is one weight per accepted
window, and all weights are positive. -/
theorem weights_sum_one (counts : List Nat) (hne : counts ≠ []) (h : ∀ c ∈ counts, 1 ≤ c) :
    ∃ ws : List ℝ, chengWeights counts = .ok ws ∧ ws.length = counts.sum ∧ ws.sum = 1 ∧ ∀ w ∈ ws, 0 < w := by
  have hn : 0 < counts.length := List.length_pos_iff.mpr hne
  refine ⟨_, (chengWeightsFor_eq _ counts).trans (if_neg fun h0 => Nat.not_succ_le_zero 0 (h 0 h0)), ?_, ?_, ?_⟩
  · simp only [List.length_flatMap, List.length_replicate, List.map_id']
  · rw [sum_weights _ _ h, div_self (by exact_mod_cast hn.ne')]
  · intro w hw
    obtain ⟨c, hc, hw⟩ := List.mem_flatMap.mp hw
    rw [(List.mem_replicate.mp hw).2]
    exact one_div_pos.mpr (Nat.cast_pos.mpr (Nat.mul_pos hn (h c hc)))

/-- an azimuth without an accepted window is refused (the code divides by the count) -/
theorem weights_zero_count (counts : List Nat) (h : 0 ∈ counts) :
    ∃ e, (chengWeights counts : Except String (List ℝ)) = .error e :=
  ⟨"zerodiv", (chengWeightsFor_eq _ counts).trans (if_pos h)⟩

theorem single_azimuth_weights (N : Nat) (hN : 1 ≤ N) :
    (chengWeights [N] : Except String (List ℝ)) = .ok (List.replicate N (1 / (N : ℝ))) := by
  refine (chengWeightsFor_eq _ [N]).trans ?_
  rw [if_neg (List.mem_singleton.not.mpr (Nat.ne_of_lt hN)), List.flatMap_singleton, List.length_singleton, Nat.one_mul]

theorem zip_replicate_map (vals : List ℝ) (c : ℝ) (g : ℝ → ℝ → ℝ) :
    ((List.zip vals (List.replicate vals.length c)).map (fun p => g p.1 p.2)) = vals.map (fun v => g v c) := by
  rw [zip_replicate_right _ _ _ le_rfl, List.map_map]; rfl

theorem single_azimuth_meanPre (d : Dist) (vals : List ℝ) (h : vals ≠ []) :
    nanmeanPre d (vals.map some) (some (List.replicate vals.length (1 / (vals.length : ℝ)))) =
      some ((vals.map d.pre).sum / (vals.length : ℝ)) := by
  have hN : (vals.length : ℝ) ≠ 0 := Nat.cast_ne_zero.mpr (mt List.length_eq_zero_iff.mp h)
  rw [nanmeanPre_weighted, zip_replicate_map vals _ (fun v w => d.pre v * w), List.sum_map_mul_right, List.sum_replicate,
    nsmul_eq_mul, mul_one_div_cancel hN, divO_real, if_neg one_ne_zero, div_one, mul_one_div]

/-- **A single azimuth reduces to the traditional mean**: with weights `1/N` the weighted mean is the plain
mean (in the transformed space), for both distributions. -/
theorem single_azimuth_mean (d : Dist) (vals : List ℝ) (h : vals ≠ []) :
    nanmeanW d (vals.map some) (some (List.replicate vals.length (1 / (vals.length : ℝ)))) =
      nanmeanW d (vals.map some) none := by
  unfold nanmeanW
  rw [single_azimuth_meanPre d vals h, nanmeanPre_unweighted, somes_map_some, if_neg (mt List.length_eq_zero_iff.mp h)]

/-- **A single azimuth reduces to the traditional standard deviation**: with weights `1/N` the Cheng estimator
(`1 − Σw²` denominator, here `(N−1)/N`) is the `N − 1` sample standard deviation, for both distributions. -/
theorem single_azimuth_std (d : Dist) (vals : List ℝ) (h2 : 2 ≤ vals.length) :
    nanstdW d (vals.map some) (some (List.replicate vals.length (1 / (vals.length : ℝ)))) .cheng =
      nanstdW d (vals.map some) none .nist := by
  have hpos : 0 < vals.length := Nat.lt_of_lt_of_le Nat.two_pos h2
  have hN : (vals.length : ℝ) ≠ 0 := Nat.cast_ne_zero.mpr hpos.ne'
  have hN1 : (vals.length : ℝ) - 1 ≠ 0 := sub_ne_zero.mpr (Nat.cast_ne_one.mpr (Nat.ne_of_gt h2))
  have hden : 1 - ((List.replicate vals.length (1 / (vals.length : ℝ))).map (fun w => w * w)).sum
      = ((vals.length : ℝ) - 1) / vals.length := by
    rw [List.map_replicate, List.sum_replicate, nsmul_eq_mul, ← mul_assoc, mul_one_div_cancel hN, one_mul, sub_div, div_self hN]
  have hz := fun m => zip_replicate_map vals (1 / (vals.length : ℝ)) (fun v w => w * ((d.pre v - m) * (d.pre v - m)))
  rw [nanstdW_unweighted d _ (by rw [somes_map_some]; exact h2), somes_map_some, nanstdW_weighted,
    single_azimuth_meanPre d vals (List.length_pos_iff.mp hpos), Option.bind_some, hz, List.sum_map_mul_left, hden, divO_real,
    if_neg (div_ne_zero hN1 hN)]
  simp only [Option.map_some, List.length_map, List.map_map, Function.comp_def, ← pow_two]
  rw [one_div, inv_mul_eq_div, div_div_div_cancel_right₀ hN]

/-- the Cheng weights laid out per azimuth: azimuth `g` with `|g|` accepted windows gets `|g|` copies of `1/(naz·|g|)` -/
noncomputable def groupWeights (naz : ℕ) (groups : List (List ℝ)) : List ℝ :=
  groups.flatMap (fun g => List.replicate g.length (1 / ((naz * g.length : ℕ) : ℝ)))

theorem groupWeights_eq (naz : ℕ) (groups : List (List ℝ)) :
    groupWeights naz groups = (groups.map List.length).flatMap fun c => List.replicate c (1 / ((naz * c : ℕ) : ℝ)) := by
  unfold groupWeights
  rw [List.flatMap_map]

theorem groupWeights_length (A : ℕ) (groups : List (List ℝ)) :
    (groupWeights A groups).length = (groups.flatMap (fun g => g)).length := by
  unfold groupWeights
  rw [List.length_flatMap, List.length_flatMap]
  simp only [List.length_replicate]

theorem chengWeightsFor_groups (naz : ℕ) (groups : List (List ℝ)) (h : ∀ g ∈ groups, g ≠ []) :
    (chengWeightsFor naz (groups.map List.length) : Except String (List ℝ)) = .ok (groupWeights naz groups) := by
  rw [chengWeightsFor_eq, groupWeights_eq, if_neg]
  exact fun h0 => let ⟨g, hg, e⟩ := List.mem_map.mp h0; h g hg (List.length_eq_zero_iff.mp e)

theorem zip_flatMap_replicate {β γ : Type} (c : List β → γ) (groups : List (List β)) :
    List.zip (groups.flatMap (fun g => g)) (groups.flatMap fun g => List.replicate g.length (c g))
      = groups.flatMap fun g => g.map (fun x => (x, c g)) := by
  induction groups with
  | nil => rfl
  | cons g gs ih =>
    rw [List.flatMap_cons, List.flatMap_cons, List.flatMap_cons, List.zip_append (by simp), ih,
      zip_replicate_right _ _ _ le_rfl]

theorem zip_groups (A : ℕ) (groups : List (List ℝ)) :
    List.zip (groups.flatMap (fun g => g)) (groupWeights A groups)
      = groups.flatMap fun g => g.map (fun x => (x, 1 / ((A * g.length : ℕ) : ℝ))) :=
  zip_flatMap_replicate _ groups

/-- **The weighted mean is the plain average over the azimuths of the per-azimuth means** (in the transformed
space: log space for lognormal), for any numbers of accepted windows per azimuth (≥ 1). -/
theorem weighted_mean_is_mean_of_means (d : Dist) (groups : List (List ℝ)) (hne : groups ≠ []) (h : ∀ g ∈ groups, g ≠ []) :
    nanmeanPre d ((groups.flatMap (fun g => g)).map some) (some (groupWeights groups.length groups)) =
      some ((groups.map (fun g => (g.map d.pre).sum / (g.length : ℝ))).sum / (groups.length : ℝ)) := by
  have hn : (groups.length : ℝ) ≠ 0 := Nat.cast_ne_zero.mpr (mt List.length_eq_zero_iff.mp hne)
  have hsum : (groupWeights groups.length groups).sum = 1 := by
    rw [groupWeights_eq, sum_weights _ _ (List.forall_mem_map.mpr fun g hg => List.length_pos_iff.mpr (h g hg)), List.length_map,
      div_self hn]
  rw [nanmeanPre_weighted, hsum, divO_real, if_neg one_ne_zero, div_one, zip_groups, sum_map_flatMap, ← sum_map_div]
  congr 2
  -- azimuth `g` contributes `Σ pre(x) · 1/(A·|g|)`, its mean over `A`
  refine List.map_congr_left fun g _ => ?_
  rw [List.map_map, Function.comp_def, List.sum_map_mul_right, Nat.cast_mul, one_div, mul_inv, div_eq_mul_inv, div_eq_mul_inv, mul_assoc,
    mul_comm (g.length : ℝ)⁻¹]

/-! ### Non-vacuity -/
example : (chengWeights [2, 1] : Except String (List Rat)).toOption = some [1/4, 1/4, 1/2] := by decide +kernel
example : (chengWeights [2, 0] : Except String (List Rat)).toOption = none := by decide +kernel

end HV.C11
