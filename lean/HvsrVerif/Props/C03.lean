import HvsrVerif.Proofs.ProcessLemmas
/-!
# C03 — One curve per window, in input order, independent of the other windows

Model: `Model/Rows.lean` (bookkeeping of the three traditional processing functions), `Model/Process.lean`.
-/
namespace HV.C03

/-! ### Writing the rows group by group and gathering them again is the identity -/

theorem mem_dtGroups {dts : List ℝ} {d : ℝ} : d ∈ dtGroups dts ↔ d ∈ dts := by
  induction dts with
  | nil => simp [dtGroups]
  | cons a t ih =>
    simp only [dtGroups, List.mem_cons, List.mem_filter, ih, eqA_decide]
    by_cases hd : d = a <;> simp [hd]

theorem mem_processOrder {dts : List ℝ} {i : Nat} (hi : i < dts.length) : i ∈ processOrder dts := by
  unfold processOrder
  rw [List.mem_flatMap]
  refine ⟨dts[i], mem_dtGroups.mpr (List.getElem_mem hi), ?_⟩
  simp [List.mem_filter, hi, eqA_decide]

theorem written_at {ρ : Type} (curve : Nat → ρ) (dts : List ℝ) {org : Nat} (h : org < dts.length) :
    ((processOrder dts).map curve)[(processOrder dts).idxOf org]? = some (curve org) := by
  have hlt : (processOrder dts).idxOf org < (processOrder dts).length :=
    List.idxOf_lt_length_of_mem (mem_processOrder h)
  rw [List.getElem?_map, List.getElem?_eq_getElem hlt]
  simp [List.getElem_idxOf hlt]

theorem filterMap_eq_map_of {α β} (f : α → Option β) (g : α → β) (l : List α)
    (h : ∀ x ∈ l, f x = some (g x)) : l.filterMap f = l.map g := by
  rw [List.filterMap_congr h, List.filterMap_eq_map']

/-- **Scatter/gather is the identity.** Whatever the arrangement of time steps, the group-major writing of rows
followed by the final re-ordering returns row `i` = curve of record `i`: one curve per record, in input order. -/
theorem processRows_eq_map {ρ : Type} (curve : Nat → ρ) (dts : List ℝ) :
    processRows curve dts = (List.range dts.length).map curve := by
  unfold processRows indexMap
  rw [List.filterMap_map]
  apply filterMap_eq_map_of
  intro org horg
  exact written_at curve dts (List.mem_range.mp horg)

/-- the result has exactly one row per processed record -/
theorem processRows_length {ρ : Type} (curve : Nat → ρ) (dts : List ℝ) :
    (processRows curve dts).length = dts.length := by
  rw [processRows_eq_map]; simp

/-! ### Which records the three policies keep -/

/-- **Frequency-domain resampling keeps every record.** -/
theorem resample_keeps_all (dts : List ℝ) : keptIndices .resample dts = List.range dts.length := rfl

theorem foldl_minA_mem (l : List ℝ) (x : ℝ) : l.foldl minA x = x ∨ l.foldl minA x ∈ l := by
  induction l generalizing x with
  | nil => simp
  | cons a t ih =>
    simp only [List.foldl_cons, minA_real, List.mem_cons]
    rcases ih (min x a) with h | h
    · rcases min_choice x a with hc | hc
      · left; rw [h, hc]
      · right; left; rw [h, hc]
    · right; right; exact h

/-- **Keeping the smallest time step** retains exactly the records with the smallest `dt`, in their original order. -/
theorem keepSmallest_eq_filter (dts : List ℝ) (hne : dts ≠ []) :
    ∃ m, m ∈ dts ∧ (∀ d ∈ dts, m ≤ d) ∧
      keptIndices .keepSmallest dts = (List.range dts.length).filter (fun i => decide (dts[i]? = some m)) := by
  cases dts with
  | nil => exact absurd rfl hne
  | cons d ds =>
    refine ⟨ds.foldl minA d, List.mem_cons.mpr (foldl_minA_mem ds d),
      List.forall_mem_cons.mpr ((le_foldl_minA_iff ds d _).mp le_rfl), ?_⟩
    simp only [keptIndices, minDt]
    exact List.filter_congr fun i _ => by cases (d :: ds)[i]? <;> simp [eqA_decide]

/-- **Keeping the majority time step** retains exactly the records of one time step `m` that no other time step
outnumbers, in their original order. -/
theorem keepMajority_is_filter (dts : List ℝ) (m : ℝ) (h : majorityDt dts = some m) :
    keptIndices .keepMajority dts = (List.range dts.length).filter (fun i => decide (dts[i]? = some m)) := by
  simp only [keptIndices, h]
  exact List.filter_congr fun i _ => by cases dts[i]? <;> simp [eqA_decide]

/-- the count of the best time step so far (`0` before any has been seen); the loop keeps it the running maximum -/
noncomputable def bestCount (dts : List ℝ) (best : Option ℝ) : ℕ := best.elim 0 (dtCount dts)

theorem bestCount_majorityStep (dts : List ℝ) (best : Option ℝ) (d : ℝ) :
    bestCount dts (majorityStep dts best d) = max (bestCount dts best) (dtCount dts d) := by
  cases best with
  | none =>
    simp only [majorityStep, bestCount]
    split_ifs with h
    · exact (Nat.zero_max _).symm
    · exact ((Nat.zero_max _).trans (Nat.eq_zero_of_not_pos h)).symm
  | some b =>
    simp only [majorityStep, bestCount]
    split_ifs with h
    · exact (max_eq_right h.le).symm
    · exact (max_eq_left (not_lt.mp h)).symm

theorem majorityStep_pos {dts : List ℝ} {best : Option ℝ} (hb : ∀ b, best = some b → 0 < dtCount dts b) (d m : ℝ)
    (h : majorityStep dts best d = some m) : 0 < dtCount dts m := by
  cases best with
  | none =>
    simp only [majorityStep] at h
    split at h <;> cases h
    assumption
  | some b =>
    simp only [majorityStep] at h
    split at h <;> cases h
    · exact Nat.zero_lt_of_lt ‹_›
    · exact hb m rfl

theorem majority_fold_spec (dts : List ℝ) (gs : List ℝ) (init : Option ℝ)
    (hinit : ∀ b, init = some b → 0 < dtCount dts b) (m : ℝ) (hm : gs.foldl (majorityStep dts) init = some m) :
    0 < dtCount dts m ∧ (∀ d ∈ gs, dtCount dts d ≤ dtCount dts m) ∧ bestCount dts init ≤ dtCount dts m := by
  induction gs generalizing init with
  | nil => cases hm; exact ⟨hinit m rfl, by simp, le_rfl⟩
  | cons g gs ih =>
    obtain ⟨h0, h1, h2⟩ := ih _ (majorityStep_pos hinit g) hm
    rw [bestCount_majorityStep] at h2
    exact ⟨h0, List.forall_mem_cons.mpr ⟨(le_max_right _ _).trans h2, h1⟩, (le_max_left _ _).trans h2⟩

/-- the retained time step is a most frequent one -/
theorem majority_is_most_frequent (dts : List ℝ) (m : ℝ) (h : majorityDt dts = some m) :
    0 < dtCount dts m ∧ ∀ d ∈ dts, dtCount dts d ≤ dtCount dts m := by
  obtain ⟨h0, h1, _⟩ := majority_fold_spec dts (dtGroups dts) none (by simp) m h
  exact ⟨h0, fun d hd => h1 d (mem_dtGroups.mpr hd)⟩

/-! ### The Nyquist guard -/

theorem nyquistRefuses_eq_false_iff (dtMax : ℝ) (fcs : List ℝ) :
    nyquistRefuses dtMax fcs = false ↔ ∀ fc ∈ fcs, fc ≤ 1 / (2 * dtMax) := by
  cases fcs with
  | nil => exact iff_of_true rfl fun _ h => nomatch h
  | cons f fs =>
    simp only [nyquistRefuses, decide_eq_false_iff_not, not_lt, ofNat_real, Nat.cast_one, Nat.cast_ofNat,
      foldl_maxA_le_iff, List.mem_cons, forall_eq_or_imp]

/-- **Nyquist guard.** When the guard does not refuse, every requested centre frequency is at most the Nyquist
frequency `1/(2·dt)` of every processed record (the guard uses the largest kept time step). -/
theorem nyquist_guard (dtMax : ℝ) (fcs : List ℝ) (h : nyquistRefuses dtMax fcs = false) :
    ∀ fc ∈ fcs, ∀ dt, 0 < dt → dt ≤ dtMax → fc ≤ 1 / (2 * dt) := by
  intro fc hfc dt hdt hle
  exact ((nyquistRefuses_eq_false_iff _ _).mp h fc hfc).trans
    (one_div_le_one_div_of_le (mul_pos two_pos hdt) (mul_le_mul_of_nonneg_left hle two_pos.le))

/-- … and it refuses as soon as one centre frequency exceeds the Nyquist frequency of the largest kept time step -/
theorem nyquist_refuses (dtMax : ℝ) (fcs : List ℝ) (fc : ℝ) (hfc : fc ∈ fcs) (h : 1 / (2 * dtMax) < fc) :
    nyquistRefuses dtMax fcs = true := by
  rw [← Bool.not_eq_false, nyquistRefuses_eq_false_iff]
  exact fun hall => absurd (hall fc hfc) (not_le.mpr h)

/-! ### The rows of a successful run -/

/-- **One curve per processed record, in input order, each computed from that record alone** (for the FFT length
`n` fixed by the call): the rows of a successful `process` are `hvsrRow` of the kept records, in order. -/
theorem process_rows_are_per_record (m : Method ℝ) (cfg : ProcCfg ℝ) (fft : FftState) (pol : Policy)
    (recs : List (Rec3 ℝ)) (r : ProcResult ℝ) (h : processTraditional m cfg fft pol recs = .ok r) :
    ∃ n, (prepareFft fft (maxSamples recs)).len = some n ∧ r.kept = keptIndices pol (recs.map (·.dt)) ∧
      (r.rows.map Except.ok : List (Except String (List ℝ))) =
        (r.kept.filterMap (fun i => recs[i]?)).map (hvsrRow m cfg n) := by
  obtain ⟨-, hk, n, _, hn, rfl, -, curve, hcurve, hrows⟩ := processTraditional_ok h
  refine ⟨n, hn, hk, ?_⟩
  rw [hrows, processRows_eq_map, List.length_map]
  refine List.ext_getElem (by rw [List.length_map, List.length_map, List.length_range]) fun i _ _ => ?_
  rw [List.getElem_map, List.getElem_map, List.getElem_range]
  exact hcurve i _ (List.getElem?_eq_getElem _)

/-! ### Non-vacuity -/
example : processRows (fun i => i * 10) ([1, 2, 1, 3, 2] : List Int) = [0, 10, 20, 30, 40] := by decide +kernel
example : processOrder ([1, 2, 1, 3, 2] : List Int) = [0, 2, 1, 4, 3] := by decide +kernel
example : keptIndices .keepMajority ([1, 2, 1, 3, 2] : List Int) = [0, 2] := by decide +kernel
example : keptIndices .keepSmallest ([5, 2, 5, 3, 2] : List Int) = [1, 4] := by decide +kernel

end HV.C03
