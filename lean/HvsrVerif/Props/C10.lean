import HvsrVerif.Proofs.Split
import HvsrVerif.Proofs.ExceptLemmas
import Mathlib.Data.Rat.Floor
/-!
# C10 — Preprocessing applies the documented steps in order; windows tile the record

Model: `Model/Split.lean` (`split` mirrors the loop of `TimeSeries.split`, `split3` is
`SeismicRecording3C.split`, `preprocess` is `hvsr_preprocess` with the Butterworth filter, the
orientation and the detrend as ARBITRARY functions). Theorems over `ℕ`, `ℚ` and lists of an
arbitrary sample type.
-/
namespace HV.C10
open HV.Split

variable {β : Type}

/-! ## the loop of `TimeSeries.split` is the closed form `xs[j·k : j·k+k+1]` -/

theorem splitLoop_eq (k : Nat) (xs : List β) (m start : Nat) :
    splitLoop (k + 1) xs m start
      = (List.range m).map (fun j => slice xs (start + j * k) (start + j * k + k + 1)) := by
  induction m generalizing start with
  | zero => rfl
  | succ m ih =>
    rw [splitLoop, ih, List.range_succ_eq_map, List.map_cons, List.map_map, Nat.zero_mul]
    refine congrArg _ (List.map_congr_left fun j _ => ?_)
    have : start + (k + 1) - 1 + j * k = start + (j + 1) * k := by
      rw [Nat.succ_mul, Nat.add_comm (j * k), ← Nat.add_assoc start k (j * k)]; rfl
    rw [Function.comp, this]

theorem split_spec (k : Nat) (xs : List β) :
    split k xs = if k = 0 then .error "zerodiv" else if xs.length < k then .error "value"
      else .ok ((List.range (xs.length / k)).map (window k xs)) := by
  unfold split nWindows
  split
  · rfl
  · rename_i hk
    rw [if_congr (Nat.div_lt_one_iff (Nat.pos_of_ne_zero hk)) rfl rfl, splitLoop_eq]
    simp only [Nat.zero_add]; rfl

theorem split_eq {k : Nat} {xs : List β} {ws : List (List β)} (h : split k xs = .ok ws) :
    0 < k ∧ ws = (List.range (xs.length / k)).map (window k xs) := by
  rw [split_spec] at h
  split at h
  · cases h
  · split at h <;> cases h
    exact ⟨Nat.pos_of_ne_zero ‹_›, rfl⟩

theorem split_get {k : Nat} {xs : List β} {ws : List (List β)} (h : split k xs = .ok ws)
    {j : Nat} (hj : j < ws.length) :
    ws[j]? = some (window k xs j) ∧ 0 < k ∧ ws.length = xs.length / k ∧ j * k + k ≤ xs.length := by
  obtain ⟨hk, rfl⟩ := split_eq h
  rw [List.length_map, List.length_range] at hj ⊢
  refine ⟨by rw [List.getElem?_map, List.getElem?_range hj]; rfl, hk, rfl, ?_⟩
  rw [← Nat.succ_mul]
  exact (Nat.le_div_iff_mul_le hk).1 hj

theorem getElem?_window (k : Nat) (xs : List β) (j i : Nat) :
    (window k xs j)[i]? = if i ≤ k then xs[j * k + i]? else none := by
  rw [window, getElem?_slice, Nat.add_assoc, Nat.add_sub_cancel_left]
  exact if_congr Nat.lt_succ_iff rfl rfl

theorem length_window (k : Nat) (xs : List β) (j : Nat) :
    (window k xs j).length = min (k + 1) (xs.length - j * k) := by
  rw [window, length_slice, Nat.add_assoc, Nat.add_sub_cancel_left]

/-- **content**: window `j` carries the record's samples `j·k … j·k+k` unaltered -/
theorem split_content (k : Nat) (xs : List β) (ws : List (List β)) (h : split k xs = .ok ws)
    (j : Nat) (hj : j < ws.length) :
    ∃ w, ws[j]? = some w ∧ ∀ i, w[i]? = if i ≤ k then xs[j * k + i]? else none :=
  ⟨_, (split_get h hj).1, getElem?_window k xs j⟩

/-- **starts**: window `j` starts on sample `j·k` (which exists) -/
theorem split_starts (k : Nat) (xs : List β) (ws : List (List β)) (h : split k xs = .ok ws)
    (j : Nat) (hj : j < ws.length) :
    ∃ w x, ws[j]? = some w ∧ w[0]? = some x ∧ xs[j * k]? = some x := by
  obtain ⟨hw, hk, _, hle⟩ := split_get h hj
  have hlt : j * k < xs.length := Nat.lt_of_lt_of_le (Nat.lt_add_of_pos_right hk) hle
  exact ⟨_, xs[j * k], hw, by rw [getElem?_window, if_pos (Nat.zero_le k)]; exact List.getElem?_eq_getElem hlt,
    List.getElem?_eq_getElem hlt⟩

/-- **overlap**: consecutive windows share exactly their boundary sample — the last sample
(index `k`) of window `j` is the first sample of window `j+1`, and it is sample `(j+1)·k` -/
theorem split_overlap (k : Nat) (xs : List β) (ws : List (List β)) (h : split k xs = .ok ws)
    (j : Nat) (hj : j + 1 < ws.length) :
    ∃ w w' x, ws[j]? = some w ∧ ws[j + 1]? = some w' ∧ w[k]? = some x ∧ w'[0]? = some x ∧
      xs[(j + 1) * k]? = some x ∧ w.length = k + 1 := by
  obtain ⟨hw, _, _, _⟩ := split_get h (Nat.lt_of_succ_lt hj)
  obtain ⟨hw', hk, _, hle⟩ := split_get h hj
  have e : (j + 1) * k = j * k + k := Nat.succ_mul j k
  have hlt : (j + 1) * k < xs.length := Nat.lt_of_lt_of_le (Nat.lt_add_of_pos_right hk) hle
  refine ⟨_, _, xs[(j + 1) * k], hw, hw', ?_, ?_, List.getElem?_eq_getElem hlt, ?_⟩
  · rw [getElem?_window, if_pos (Nat.le_refl k), ← e]; exact List.getElem?_eq_getElem hlt
  · rw [getElem?_window, if_pos (Nat.zero_le k)]; exact List.getElem?_eq_getElem hlt
  · rw [length_window]
    exact Nat.min_eq_left (by omega)

/-- the windows do not overlap in more than the boundary sample: window `j+1` starts exactly
where window `j` ends (no sample is skipped, none but the boundary is repeated) -/
theorem split_stride (k : Nat) (j : Nat) : (j + 1) * k = j * k + (k + 1) - 1 :=
  Nat.succ_mul j k  -- `j * k + (k + 1) - 1` is `j * k + k` by defeq

/-- **length**: every window spans `k+1` samples, except that the final window has `k` samples
exactly when the record ends with it (`n = nWindows·k`) -/
theorem split_len (k : Nat) (xs : List β) (ws : List (List β)) (h : split k xs = .ok ws)
    (j : Nat) (hj : j < ws.length) :
    ∃ w, ws[j]? = some w ∧
      (w.length = k + 1 ∨ (w.length = k ∧ j + 1 = ws.length ∧ xs.length = nWindows k xs.length * k)) ∧
      (w.length = k ↔ (j + 1 = ws.length ∧ xs.length = nWindows k xs.length * k)) := by
  obtain ⟨hw, hk, hlen, hle⟩ := split_get h hj
  -- the window is one sample short exactly when the record ends with it: `n = (j+1)·k`
  have key : xs.length = j * k + k ↔ j + 1 = ws.length ∧ xs.length = nWindows k xs.length * k := by
    rw [hlen, nWindows, (Nat.succ_mul j k).symm, Nat.succ_eq_add_one]
    constructor
    · intro e; rw [e, Nat.mul_div_cancel _ hk]; exact ⟨rfl, rfl⟩
    · rintro ⟨e1, e2⟩; rw [e1]; exact e2
  refine ⟨_, hw, ?_⟩
  rw [length_window, ← key]
  rcases Nat.eq_or_lt_of_le hle with e | hlt
  · rw [← e, Nat.add_sub_cancel_left, Nat.min_eq_right (Nat.le_succ k)]
    exact ⟨Or.inr ⟨rfl, rfl⟩, fun _ => rfl, fun _ => rfl⟩
  · rw [Nat.min_eq_left (by omega : k + 1 ≤ xs.length - j * k)]
    exact ⟨Or.inl rfl, fun h => absurd h (Nat.succ_ne_self k), fun h => absurd h.symm (Nat.ne_of_lt hlt)⟩

/-- **tail**: the samples after the last window are fewer than one window length (`< k`); with the `nW·k + 1` samples
the windows span they make up the whole record — except when the record ends one sample short of the last window
(`n = nW·k`): then the tail is empty and the span exceeds the record by that one sample (hence the `max`) -/
theorem split_tail (k : Nat) (xs : List β) (ws : List (List β)) (h : split k xs = .ok ws) :
    tailLen k xs.length < k ∧
    tailLen k xs.length + (nWindows k xs.length * k + 1) = max xs.length (nWindows k xs.length * k + 1) := by
  have hk := (split_eq h).1
  unfold tailLen nWindows
  have h3 : xs.length < xs.length / k * k + k := Nat.lt_div_mul_add hk
  refine ⟨by omega, ?_⟩
  -- the last window reaches past the record by one sample (then nothing is left), or it does not
  rcases Nat.lt_or_ge xs.length (xs.length / k * k + 1) with hl | hl
  · rw [Nat.sub_eq_zero_of_le (Nat.le_of_lt hl), Nat.zero_add, Nat.max_eq_right (Nat.le_of_lt hl)]
  · rw [Nat.sub_add_cancel hl, Nat.max_eq_left hl]

/-- **error**: a window longer than the record (`n < k`) is a `ValueError`; the only other refusal
is `k = 0` (window shorter than one sample interval: division by zero in the code) -/
theorem split_error (k : Nat) (xs : List β) :
    (0 < k → xs.length < k → split k xs = .error "value") ∧
    (k = 0 → split k xs = .error "zerodiv") ∧
    (0 < k → k ≤ xs.length → ∃ ws, split k xs = .ok ws) := by
  rw [split_spec]
  exact ⟨fun hk hn => by rw [if_neg (Nat.ne_of_gt hk), if_pos hn], fun hk => if_pos hk,
    fun hk hn => ⟨_, by rw [if_neg (Nat.ne_of_gt hk), if_neg (Nat.not_lt.2 hn)]⟩⟩

/-- a negative number of intervals (negative window length) is a `ValueError` -/
theorem split_negative (k : Nat) (xs : List β) : splitInt (Int.negSucc k) xs = .error "value" := rfl

/-! ## the number of intervals -/

/-- `intervalsExact` is the floor: `k ≤ L·fs < k+1` -/
theorem intervals_floor (L fs : Rat) (h : 0 ≤ L * fs) :
    (intervalsExact L fs : Rat) ≤ L * fs ∧ L * fs < (intervalsExact L fs : Rat) + 1 := by
  have hnn : 0 ≤ (L * fs).floor := Rat.le_floor_iff.mpr h
  rw [intervalsExact, ← Int.cast_natCast, Int.toNat_of_nonneg hnn]
  exact ⟨Rat.floor_le _, by rw [← Int.cast_one, ← Int.cast_add]; exact Rat.lt_floor_add_one _⟩

/-- **exact multiples count in full**: if `L·fs` is a whole number `m`, the window has `m` intervals
(3 s at 75 Hz is 225 intervals) -/
theorem intervals_exact_multiple (L fs : Rat) (m : Nat) (h : L * fs = m) : intervalsExact L fs = m := by
  rw [intervalsExact, h, ← Int.cast_natCast, Rat.floor_intCast, Int.toNat_natCast]

example : intervalsExact 3 75 = 225 := by
  apply intervals_exact_multiple; norm_num
example : intervalsExact (38/10) 1000 = 3800 := by
  apply intervals_exact_multiple; norm_num
example : intervalsExact (566/1000) 500 = 283 := by
  apply intervals_exact_multiple; norm_num

/-! ## three components -/

theorem zip3_map {γ : Type} (l : List γ) (f g h : γ → List β) :
    zip3 (l.map f) (l.map g) (l.map h) = l.map (fun j => ⟨f j, g j, h j⟩) := by
  induction l with
  | nil => rfl
  | cons a l ih => rw [List.map_cons, List.map_cons, List.map_cons, zip3, ih, List.map_cons]

/-- **three components, one tiling**: components of equal length are cut at the same sample
indices — window `j` of the recording consists of window `j` of each component -/
theorem three_components_same_tiling (k : Nat) (r : Rec3 β) (ws : List (Rec3 β))
    (hlen : r.ns.length = r.ew.length ∧ r.ns.length = r.vt.length)
    (h : split3 (Int.ofNat k) r = .ok ws) :
    ws.length = nWindows k r.ns.length ∧
    ∀ j, j < ws.length → ws[j]? = some ⟨window k r.ns j, window k r.ew j, window k r.vt j⟩ := by
  obtain ⟨a, ha, h⟩ := (bind_eq_ok _ _ _).1 h
  obtain ⟨b, hb, h⟩ := (bind_eq_ok _ _ _).1 h
  obtain ⟨c, hc, h⟩ := (bind_eq_ok _ _ _).1 h
  obtain ⟨_, rfl⟩ := split_eq ha
  obtain ⟨_, rfl⟩ := split_eq hb
  obtain ⟨_, rfl⟩ := split_eq hc
  rw [← hlen.1, ← hlen.2, zip3_map] at h
  cases (pure_eq_ok _ _).1 h
  rw [List.length_map, List.length_range]
  exact ⟨rfl, fun j hj => by rw [List.getElem?_map, List.getElem?_range hj]; rfl⟩

/-- a refusal in one component refuses the recording (and equal lengths make them agree) -/
theorem split3_error (k : Nat) (r : Rec3 β) (hk : 0 < k) (hn : r.ns.length < k) :
    split3 (Int.ofNat k) r = .error "value" := by
  rw [split3, show splitInt (Int.ofNat k) r.ns = split k r.ns from rfl, split_spec,
    if_neg (Nat.ne_of_gt hk), if_pos hn]; rfl

/-! ## order of the steps -/

/-- **order**: for ARBITRARY `orient`, `filter`, `detrend`, preprocessing is
`detrend-each-window ∘ split ∘ filter-whole-record ∘ orient` -/
theorem preprocess_order (orient : Rec3 β → Rec3 β) (filter detrend : List β → List β) (k : Int)
    (r : Rec3 β) :
    preprocess orient filter (some k) detrend r
      = (split3 k (Rec3.map filter (orient r))).map (fun ws => ws.map (Rec3.map detrend)) :=
  (map_eq_pure_bind _ _).symm

/-- without a window length the whole (oriented, filtered) record is detrended as one window -/
theorem preprocess_nosplit (orient : Rec3 β → Rec3 β) (filter detrend : List β → List β) (r : Rec3 β) :
    preprocess orient filter none detrend r
      = .ok [Rec3.map detrend (Rec3.map filter (orient r))] := rfl

/-- every output window is `detrend` of a window of the filtered, oriented record -/
theorem preprocess_windows (orient : Rec3 β → Rec3 β) (filter detrend : List β → List β) (k : Nat)
    (r : Rec3 β) (out : List (Rec3 β))
    (hlen : ∀ r : Rec3 β, (orient r).ns.length = r.ns.length ∧ (orient r).ew.length = r.ew.length ∧
      (orient r).vt.length = r.vt.length)
    (hfl : ∀ l, (filter l).length = l.length)
    (hr : r.ns.length = r.ew.length ∧ r.ns.length = r.vt.length)
    (h : preprocess orient filter (some (Int.ofNat k)) detrend r = .ok out) :
    out.length = nWindows k r.ns.length ∧
    ∀ j, j < out.length → out[j]? = some
      ⟨detrend (window k (filter (orient r).ns) j), detrend (window k (filter (orient r).ew) j),
       detrend (window k (filter (orient r).vt) j)⟩ := by
  obtain ⟨ws, hs, h⟩ := (bind_eq_ok _ _ _).1 h
  cases (pure_eq_ok _ _).1 h
  obtain ⟨l1, l2, l3⟩ := hlen r
  obtain ⟨h1, h2⟩ := three_components_same_tiling k (Rec3.map filter (orient r)) ws
    ⟨by rw [Rec3.map, hfl, hfl, l1, l2]; exact hr.1, by rw [Rec3.map, hfl, hfl, l1, l3]; exact hr.2⟩ hs
  rw [List.length_map]
  exact ⟨by rw [h1, Rec3.map, hfl, l1], fun j hj => by rw [List.getElem?_map, h2 j hj]; rfl⟩

/-- many recordings: windows are concatenated in input order -/
theorem preprocessMany_append (orient : Rec3 β → Rec3 β) (filter detrend : List β → List β)
    (k : Option Int) (r : Rec3 β) (rs : List (Rec3 β)) (w ws : List (Rec3 β))
    (h1 : preprocess orient filter k detrend r = .ok w)
    (h2 : preprocessMany orient filter k detrend rs = .ok ws) :
    preprocessMany orient filter k detrend (r :: rs) = .ok (w ++ ws) := by
  rw [preprocessMany, h1, h2]; rfl

/-! ### the order matters: witnesses with a non-commuting transformer

`cumsum` (a causal filter) does not commute with splitting, and removing the first sample
(`a detrend`) does not commute with it either; so "filter each window" and "detrend before
splitting" are different functions from the documented order. -/

def cumsum : List Int → List Int
  | [] => []
  | x :: xs => x :: (cumsum xs).map (· + x)

def demean0 (l : List Int) : List Int := l.map (· - l.headD 0)

/-- filtering the whole record, then splitting ≠ splitting, then filtering each window -/
theorem order_matters_filter :
    preprocess (fun r => r) cumsum (some 2) (fun l => l) ⟨[1, 2, 3, 4, 5], [1, 2, 3, 4, 5], [1, 2, 3, 4, 5]⟩
      ≠ preprocess (fun r => r) (fun l => l) (some 2) cumsum ⟨[1, 2, 3, 4, 5], [1, 2, 3, 4, 5], [1, 2, 3, 4, 5]⟩ := by
  decide +kernel

/-- detrending each window after the split ≠ detrending the record before the split -/
theorem order_matters_detrend :
    preprocess (fun r => r) (fun l => l) (some 2) demean0 ⟨[1, 2, 3, 4, 5], [1, 2, 3, 4, 5], [1, 2, 3, 4, 5]⟩
      ≠ preprocess (fun r => r) demean0 (some 2) (fun l => l) ⟨[1, 2, 3, 4, 5], [1, 2, 3, 4, 5], [1, 2, 3, 4, 5]⟩ := by
  decide +kernel

/-- the operation trace the harness compares with the wrapped real methods is the documented order:
orient (if requested), filter, split, then one detrend per window -/
theorem expectedTrace_shape (o d : Bool) (k : Int) (n : Nat) (tr : List (TraceOp × Nat))
    (h : expectedTrace o (some k) d n = .ok tr) :
    ∃ ws, splitInt k (List.range n) = .ok ws ∧
      tr = (if o then [(TraceOp.orient, n)] else []) ++ [(TraceOp.filter, n)] ++ [(TraceOp.split, n)] ++
           (if d then ws.map (fun w => (TraceOp.detrend, w.length)) else []) := by
  obtain ⟨ws, hs, h⟩ := (bind_eq_ok _ _ _).1 h
  exact ⟨ws, hs, ((pure_eq_ok _ _).1 h).symm⟩

/-! ## non-vacuity: concrete records -/

/-- 10 samples, k = 4: two windows `[0..4]`, `[4..8]`, one discarded sample -/
example : split 4 (List.range 10) = .ok [[0, 1, 2, 3, 4], [4, 5, 6, 7, 8]] := by decide +kernel
/-- the record ends with the last window, one sample short: n = 2·4 -/
example : split 4 (List.range 8) = .ok [[0, 1, 2, 3, 4], [4, 5, 6, 7]] := by decide +kernel
example : split 4 (List.range 9) = .ok [[0, 1, 2, 3, 4], [4, 5, 6, 7, 8]] := by decide +kernel
example : split 4 (List.range 3) = .error "value" := by decide +kernel
example : split 4 (List.range 4) = .ok [[0, 1, 2, 3]] := by decide +kernel
example : tailLen 4 10 = 1 := by decide
example : split3 2 (⟨[1, 2, 3, 4, 5], [6, 7, 8, 9, 10], [0, 0, 1, 0, 0]⟩ : Rec3 Int)
    = .ok [⟨[1, 2, 3], [6, 7, 8], [0, 0, 1]⟩, ⟨[3, 4, 5], [8, 9, 10], [1, 0, 0]⟩] := by decide +kernel

end HV.C10
