import HvsrVerif.Proofs.Settings
/-!
# C15 — Settings round-trip through files and are independent of one another

The property theorems and, in the last section, the concrete data they are tried on; the model is
`Model/Settings.lean` (heap with aliasing, class table, JSON files, the reader's dispatch chain), the
lemmas are in `Proofs/Settings.lean`, and `Bridge/C15.lean` ties the class table / dispatch chain /
method register to the source and decides the table hypothesis (`tableOK settingsParams`).

Vocabulary. `initState d n`: the state right after `import hvsrpy` — group 0 holds the default
objects `d` of the eight signatures, group 1 (the caller's variables) is empty. A history is a list
of `Op`; an operation that raises leaves the state unchanged (`stepD`). `Op.target σ op` is the group
the operation works on (a constructor / the reader work on the object they create).
`Op.safe t op` excludes three things that are outside the property: touching group 0 directly,
the caller assigning one of its own containers to an attribute (`assignVar`, plain Python aliasing),
and passing a caller *variable* to a parameter that the constructor stores without a deep copy. For
the table of the current tree the last item concerns exactly `fft_settings` and
`instrument_transfer_function` (stored by alias: findings C15-c, C15-d; see
`fft_settings_alias_is_shared`).
-/
namespace HV.C15
open HV.Settings

/-! ## Settings objects do not share state -/

/-- **Non-interference.** If every parameter whose default is mutable is stored by a copy deep
enough for the kind of that default (`tableOK`, decided on the extracted table in `Bridge/C15`),
then for EVERY history of safe operations (construct with omitted / literal / caller-variable
arguments, in-place writes at any path through any object or through the caller's variables,
assignments, save, load, type-dispatching read) and every position in it, the operation performed
there changes no group other than its target: not another settings object (clause ii: its
`attr_dict`), not the caller's containers, and not the default objects of the signatures. -/
theorem noninterference (t : Table) (hT : tableOK t = true)
    (d : List (String × Val)) (n : Nat) (hd : conforms t d = true) (hn : ∀ i ∈ idsF d, i < n)
    (hist : List Op) (hsafe : ∀ op ∈ hist, op.safe t = true)
    (pre post : List Op) (op : Op) (hsplit : hist = pre ++ op :: post) :
    (∀ g grp, (run t (initState d n) pre).groups[g]? = some grp →
        g ≠ op.target (run t (initState d n) pre) →
        (stepD t (run t (initState d n) pre) op).groups[g]? = some grp) ∧
    (∀ b, b ≠ op.target (run t (initState d n) pre) → b < (run t (initState d n) pre).groups.length →
        attrDict t (stepD t (run t (initState d n) pre) op) b = attrDict t (run t (initState d n) pre) b) := by
  have hpre : ∀ o ∈ pre, o.safe t = true := fun o ho => hsafe o (by rw [hsplit]; simp [ho])
  have hop : op.safe t = true := hsafe op (by rw [hsplit]; simp)
  have hI := run_inv pre (init_inv hT hd hn) hpre
  have hs := (stepD_spec hI hop).1
  exact ⟨hs.frame, fun b hb _ => by simp only [attrDict, hs.getElem?_of_ne hb]⟩

/-- the default objects of the signatures are, after any safe history, exactly what they were when
the module was imported -/
theorem defaults_unchanged (t : Table) (hT : tableOK t = true)
    (d : List (String × Val)) (n : Nat) (hd : conforms t d = true) (hn : ∀ i ∈ idsF d, i < n)
    (hist : List Op) (hsafe : ∀ op ∈ hist, op.safe t = true) :
    (run t (initState d n) hist).groups[0]? = some ⟨none, d⟩ := by
  rw [(run_spec hist (init_inv hT hd hn) hsafe).2]
  simp [initState]

/-- **Objects created later show pristine defaults.** After any safe history, `Cls()` has the
`attr_dict` that `Cls()` had right after import (both sides are `none` only if the constructor
itself raises on the pristine defaults). -/
theorem later_objects_pristine (t : Table) (hT : tableOK t = true)
    (d : List (String × Val)) (n : Nat) (hd : conforms t d = true) (hn : ∀ i ∈ idsF d, i < n)
    (hist : List Op) (hsafe : ∀ op ∈ hist, op.safe t = true) (c : Class) :
    attrDict t (stepD t (run t (initState d n) hist) (.construct c []))
        (run t (initState d n) hist).groups.length =
      attrDict t (stepD t (initState d n) (.construct c [])) 2 := by
  have h0 := defaults_unchanged t hT d n hd hn hist hsafe
  have := construct_default_attrDict t (run t (initState d n) hist) (initState d n) c
    (by rw [h0]; simp [initState])
  simpa [initState] using this

/-! ## Settings round-trip through files -/

/-- **save → load.** Names in `self.attrs` being distinct, once `save` has written the object `g`,
`load` of that file into ANY object `g'` of the same class (the object itself, a fresh one, one with
arbitrary other content) succeeds and makes its `attr_dict` equal in content to the original's
(`attrDict` reads tuples and arrays as lists; `Json.toVal` creates lists — proved by induction on
`Json`, `toVal_canon`). -/
theorem save_load_content (t : Table) (σ σ1 : State) (g g' : Nat) (c : Class)
    (fs fs' : List (String × Val))
    (hnd : ((t c).map (·.name)).Nodup)
    (hg : σ.groups[g]? = some ⟨some c, fs⟩) (hg' : σ.groups[g']? = some ⟨some c, fs'⟩)
    (hs : save t σ g = some σ1) :
    ∃ σ2, load σ1 g' σ.files.length = some σ2 ∧ attrDict t σ2 g' = attrDict t σ g := by
  obtain ⟨f, hf, rfl⟩ := save_spec hs
  have hlt : g' < σ.groups.length := (List.getElem?_eq_some_iff.1 hg').1
  refine ⟨_, by simp only [load, hg', List.getElem?_concat_length]; rfl, ?_⟩
  rw [hf]
  simp only [attrDict, hg] at hf
  simp only [attrDict, List.getElem?_set_self hlt]
  exact attrsCanon_loadFields (t c) hnd hf

/-- the names in `self.attrs` are distinct for the eight classes -/
theorem attrs_nodup (c : Class) : ((settingsParams c).map (·.name)).Nodup :=
  (by decide +kernel : ∀ c ∈ Class.all, ((settingsParams c).map (·.name)).Nodup) c (mem_all c)

/-- **save → `read_settings_object_from_file`.** If the reader, looking at the file written from
object `g`, picks the class of `g` (see `dispatch_class`), the object it returns has an `attr_dict`
equal in content to the original's. -/
theorem save_read_content (t : Table) (σ σ1 σ2 : State) (g : Nat) (c : Class)
    (fs : List (String × Val)) (f : File)
    (hnd : ((t c).map (·.name)).Nodup)
    (hg : σ.groups[g]? = some ⟨some c, fs⟩)
    (hs : save t σ g = some σ1) (hf : attrDict t σ g = some f) (hd : dispatch f = some c)
    (hr : dispatchLoad t σ1 σ.files.length = some σ2) :
    σ2.groups.length = σ.groups.length + 1 ∧
    (∃ fs2, σ2.groups[σ.groups.length]? = some ⟨some c, fs2⟩) ∧
    attrDict t σ2 σ.groups.length = attrDict t σ g := by
  obtain ⟨f0, hf0, rfl⟩ := save_spec hs
  obtain rfl : f0 = f := Option.some.inj (hf0.symm.trans hf)
  simp only [dispatchLoad_eq, List.getElem?_concat_length, hd, construct_eq, List.all_nil, if_true,
    Option.bind_some, Option.bind_eq_some_iff, Option.map_eq_some_iff] at hr
  obtain ⟨_, ⟨r, -, rfl⟩, hr⟩ := hr
  simp only [load, List.getElem?_concat_length, Option.some.injEq] at hr
  subst hr
  have hlen : σ.groups.length < (σ.groups ++ [(⟨some c, r.1⟩ : Group)]).length := by simp
  refine ⟨by simp, ⟨_, List.getElem?_set_self hlen⟩, ?_⟩
  rw [hf]
  simp only [attrDict, hg] at hf
  simp only [attrDict, List.getElem?_set_self hlen]
  exact attrsCanon_loadFields (t c) hnd hf

/-! ## The reader returns the class that was saved -/

/-- expected content of the three discriminating keys in a file: `none` = key absent -/
def KeyIs (f : File) (k : String) : Option String → Prop
  | none => f.lookup k = none
  | some s => f.lookup k = some (.sc (.str s))

/-- registered values of `method_to_combine_horizontals` whose processing function is written for
class `c` (`TRADITIONAL_PROCESSING_REGISTER`, bridged in `Bridge/C15`) -/
def methodsOf (c : Class) : List String :=
  traditionalRegister.filterMap fun e => if classOfProcessingFn e.2 = some c then some e.1 else none

/-- **Dispatch.** For each of the eight classes — and, for the three traditional classes, for EVERY
registered `method_to_combine_horizontals` of that class, aliases included — a file carrying the
class's own `preprocessing_method` / `processing_method` (and that method) is read back as that
class, whatever else the file contains. -/
theorem dispatch_class (f : File) :
    (KeyIs f "preprocessing_method" (some "hvsr") → dispatch f = some .hvsrPre) ∧
    (KeyIs f "preprocessing_method" (some "psd") → dispatch f = some .psdPre) ∧
    (KeyIs f "preprocessing_method" none → KeyIs f "processing_method" (some "psd") →
      dispatch f = some .psdProc) ∧
    (KeyIs f "preprocessing_method" none → KeyIs f "processing_method" (some "azimuthal") →
      dispatch f = some .azimuthal) ∧
    (KeyIs f "preprocessing_method" none → KeyIs f "processing_method" (some "diffuse_field") →
      dispatch f = some .diffuse) ∧
    (∀ c ∈ [Class.trad, Class.singleAz, Class.rotDpp], ∀ m ∈ methodsOf c,
      KeyIs f "preprocessing_method" none → KeyIs f "processing_method" (some "traditional") →
      KeyIs f "method_to_combine_horizontals" (some m) → dispatch f = some c) := by
  have ht : ∀ c ∈ [Class.trad, Class.singleAz, Class.rotDpp], ∀ m ∈ methodsOf c,
      tradClass (.sc (.str m)) = c := by decide +kernel
  simp only [KeyIs, dispatch_eq]
  refine ⟨?_, ?_, ?_, ?_, ?_, ?_⟩
  · intro h1; simp [h1, Json.isStr, Json.str?]
  · intro h1; simp [h1, Json.isStr, Json.str?]
  · intro h1 h2; simp [h1, h2, Json.isStr, Json.str?]
  · intro h1 h2; simp [h1, h2, Json.isStr, Json.str?]
  · intro h1 h2; simp [h1, h2, Json.isStr, Json.str?]
  · intro c hc m hm h1 h2 h3; simp [h1, h2, h3, Json.isStr, Json.str?, ht c hc m hm]

/-- every registered method belongs to exactly one of the three traditional classes, so
`dispatch_class` covers the whole register (twelve names, `directional_energy` included) -/
theorem register_covered :
    ∀ e ∈ traditionalRegister, ∃ c ∈ [Class.trad, Class.singleAz, Class.rotDpp], e.1 ∈ methodsOf c := by
  decide +kernel

end HV.C15
/- The data of the examples below: the definitions are named `HV.Settings.*` and keep their source text,
hence the change of namespace. -/
namespace HV.Settings

/-- follow a path in an `attr_dict` value -/
def Json.get : Json → List Step → Option Json
  | j, [] => some j
  | .arr xs, .idx i :: rest => match xs[i]? with | some x => x.get rest | none => none
  | .obj ks xs, .key s :: rest =>
    if ks.idxOf s < ks.length then (match xs[ks.idxOf s]? with | some x => x.get rest | none => none) else none
  | _, _ => none

/-- the scalar at `attr[path]` of an `attr_dict` -/
def peek (d : Option File) (attr : String) (path : List Step) : Option Scalar :=
  match d.bind (fun f => f.lookup attr) with
  | some j => match j.get path with | some (.sc s) => some s | _ => none
  | none => none

def sampleDefault (c : Class) (p : Param) : Val :=
  match p.dflt with
  | .list => .node 0 .list [.sc (.str "tukey"), .sc (.flt 1)]
  | .ndarray => .node 0 .arr [.sc (.int 0), .sc (.int 5)]
  | .dict => .node 0 (.dict ["operator", "bandwidth", "center_frequencies_in_hz"])
      [.sc (.str "konno_and_ohmachi"), .sc (.int 40), .node 0 .arr [.sc (.flt 1), .sc (.flt 2)]]
  | .imm =>
    if p.name = "preprocessing_method" then
      .sc (.str (match c with | .hvsrPre => "hvsr" | _ => "psd"))
    else if p.name = "processing_method" then
      .sc (.str (match c with
        | .psdProc => "psd" | .azimuthal => "azimuthal" | .diffuse => "diffuse_field" | _ => "traditional"))
    else if p.name = "method_to_combine_horizontals" then
      .sc (.str (match c with | .singleAz => "single_azimuth" | .rotDpp => "rotdpp" | _ => "geometric_mean"))
    else .sc .none

/-- default objects of the shapes announced by table `t`, allocated at locations `0 .. n-1` -/
def demoDefaults (t : Table) : List (String × Val) × Nat :=
  (Class.all.flatMap fun c => (t c).map fun p => (gkey c p.name, sampleDefault c p)).foldl
    (fun acc kv => ((acc.1 ++ [(kv.1, (kv.2.relabel acc.2).1)]), (kv.2.relabel acc.2).2)) ([], 0)

def demoInit (t : Table) : State := initState (demoDefaults t).1 (demoDefaults t).2

def allSucceed (t : Table) : State → List Op → Bool
  | _, [] => true
  | σ, op :: ops => match step t σ op with
    | some σ' => allSucceed t σ' ops
    | none => false

end HV.Settings
namespace HV.C15
open HV.Settings

/-! ## Non-vacuity: the hypotheses hold on concrete data, and they are needed -/

/-- a safe history that does what the property talks about: the caller keeps a list `w`,
object 2 is built from it, object 3 from the defaults; in-place writes through object 2 (list
element, array element inside the smoothing dict) and through the caller's own list; save; load
into object 3; type-dispatching read (object 4); one more default object (object 5). -/
def demoHist : List Op :=
  [.assign 1 "w" (.node 0 .list [.sc (.str "hann"), .sc (.flt 3)]),
   .construct .trad [("window_type_and_width", .var "w")],
   .construct .trad [],
   .mutate 2 "window_type_and_width" [] (.idx 1) (.sc (.flt 77)),
   .mutate 2 "smoothing" [.key "center_frequencies_in_hz"] (.idx 0) (.sc (.flt 9)),
   .mutate 1 "w" [] (.idx 1) (.sc (.flt 5)),
   .save 2,
   .load 3 0,
   .dispatchLoad 0,
   .construct .trad []]

/-- The facts quoted by the examples below, checked by ONE kernel evaluation: each of them replays the
same lookups of long string keys (`gkey`) in the 61-entry table of default objects, string comparison
is what the kernel pays for here, and it shares work only within one declaration. -/
theorem demo_all :
    conforms settingsParams (demoDefaults settingsParams).1 = true ∧
    (∀ i ∈ idsF (demoDefaults settingsParams).1, i < (demoDefaults settingsParams).2) ∧
    (∀ op ∈ demoHist, op.safe settingsParams = true) ∧
    allSucceed settingsParams (demoInit settingsParams) demoHist = true ∧
    (let σ5 := run settingsParams (demoInit settingsParams) (demoHist.take 5)
     let σ := run settingsParams (demoInit settingsParams) demoHist
     peek (attrDict settingsParams σ5 2) "window_type_and_width" [.idx 1] = some (Scalar.flt 77) ∧
     peek (attrDict settingsParams σ5 2) "smoothing" [.key "center_frequencies_in_hz", .idx 0] = some (Scalar.flt 9) ∧
     peek (attrDict settingsParams σ5 3) "window_type_and_width" [.idx 1] = some (Scalar.flt 1) ∧
     peek (attrDict settingsParams σ5 3) "smoothing" [.key "center_frequencies_in_hz", .idx 0] = some (Scalar.flt 1) ∧
     peek ((σ5.lookup 1 "w").map fun v => [("w", v.canon)]) "w" [.idx 1] = some (Scalar.flt 3) ∧
     peek ((σ.lookup 1 "w").map fun v => [("w", v.canon)]) "w" [.idx 1] = some (Scalar.flt 5) ∧
     peek (attrDict settingsParams σ 3) "window_type_and_width" [.idx 1] = some (Scalar.flt 77) ∧
     peek (attrDict settingsParams σ 4) "smoothing" [.key "center_frequencies_in_hz", .idx 0] = some (Scalar.flt 9) ∧
     peek (attrDict settingsParams σ 5) "window_type_and_width" [.idx 1] = some (Scalar.flt 1) ∧
     σ.groups.length = 6) ∧
    (∀ c ∈ Class.all,
      (attrDict settingsParams (stepD settingsParams (demoInit settingsParams) (.construct c [])) 2).bind dispatch
        = some c) := by
  decide +kernel

/-- the hypotheses of `noninterference` hold of the table of the current tree, the sample default
objects and `demoHist`, all of whose operations execute (this example and the next four) -/
example : tableOK settingsParams = true := by decide +kernel
example : conforms settingsParams (demoDefaults settingsParams).1 = true := demo_all.1
example : ∀ i ∈ idsF (demoDefaults settingsParams).1, i < (demoDefaults settingsParams).2 := demo_all.2.1
example : ∀ op ∈ demoHist, op.safe settingsParams = true := demo_all.2.2.1
example : allSucceed settingsParams (demoInit settingsParams) demoHist = true := demo_all.2.2.2.1

/-- what the history shows (floats are bit patterns; here small numbers stand for them):
after the writes through object 2, object 3 and the caller still show their own values; after
`load`, object 3 shows object 2's content; the reader returns an object (group 4) with that content
too; the object built last shows the pristine defaults. -/
example :
    let σ5 := run settingsParams (demoInit settingsParams) (demoHist.take 5)
    let σ := run settingsParams (demoInit settingsParams) demoHist
    peek (attrDict settingsParams σ5 2) "window_type_and_width" [.idx 1] = some (Scalar.flt 77) ∧
    peek (attrDict settingsParams σ5 2) "smoothing" [.key "center_frequencies_in_hz", .idx 0] = some (Scalar.flt 9) ∧
    peek (attrDict settingsParams σ5 3) "window_type_and_width" [.idx 1] = some (Scalar.flt 1) ∧
    peek (attrDict settingsParams σ5 3) "smoothing" [.key "center_frequencies_in_hz", .idx 0] = some (Scalar.flt 1) ∧
    peek ((σ5.lookup 1 "w").map fun v => [("w", v.canon)]) "w" [.idx 1] = some (Scalar.flt 3) ∧
    peek ((σ.lookup 1 "w").map fun v => [("w", v.canon)]) "w" [.idx 1] = some (Scalar.flt 5) ∧
    peek (attrDict settingsParams σ 3) "window_type_and_width" [.idx 1] = some (Scalar.flt 77) ∧
    peek (attrDict settingsParams σ 4) "smoothing" [.key "center_frequencies_in_hz", .idx 0] = some (Scalar.flt 9) ∧
    peek (attrDict settingsParams σ 5) "window_type_and_width" [.idx 1] = some (Scalar.flt 1) ∧
    σ.groups.length = 6 :=
  demo_all.2.2.2.2.1

/-- the reader's choice on the `attr_dict` of a default-constructed object of each class -/
example : ∀ c ∈ Class.all,
    (attrDict settingsParams (stepD settingsParams (demoInit settingsParams) (.construct c [])) 2).bind dispatch
      = some c :=
  demo_all.2.2.2.2.2

/-- a table that stores `window_type_and_width` by reference (the tree before repair 108c551) -/
def aliasParams : Table := fun c => (settingsParams c).map fun p =>
  if p.name = "window_type_and_width" then { p with store := .alias } else p

/-- **The table hypothesis is necessary.** With alias storage the hypothesis is false, and a safe
two-object history exists in which a write through object 2 changes object 3 and every object
constructed later. -/
theorem alias_storage_breaks_noninterference :
    tableOK aliasParams = false ∧
    ∃ hist : List Op, (∀ op ∈ hist, op.safe aliasParams = true) ∧
      ∃ op, op.target (run aliasParams (demoInit aliasParams) hist) = 2 ∧ op.safe aliasParams = true ∧
        attrDict aliasParams (stepD aliasParams (run aliasParams (demoInit aliasParams) hist) op) 3 ≠
          attrDict aliasParams (run aliasParams (demoInit aliasParams) hist) 3 ∧
        attrDict aliasParams (stepD aliasParams (stepD aliasParams (run aliasParams (demoInit aliasParams) hist) op)
            (.construct .trad [])) 4 ≠
          attrDict aliasParams (stepD aliasParams (demoInit aliasParams) (.construct .trad [])) 2 := by
  let hist : List Op := [.construct .trad [], .construct .trad []]
  let op : Op := .mutate 2 "window_type_and_width" [] (.idx 1) (.sc (.flt 77))
  -- one kernel evaluation, for the reason given at `demo_all`
  have key :
      let σ := run aliasParams (demoInit aliasParams) hist
      tableOK aliasParams = false ∧ (∀ op ∈ hist, op.safe aliasParams = true) ∧
      op.target σ = 2 ∧ op.safe aliasParams = true ∧
      peek (attrDict aliasParams (stepD aliasParams σ op) 3) "window_type_and_width" [.idx 1] ≠
        peek (attrDict aliasParams σ 3) "window_type_and_width" [.idx 1] ∧
      peek (attrDict aliasParams (stepD aliasParams (stepD aliasParams σ op) (.construct .trad [])) 4)
          "window_type_and_width" [.idx 1] ≠
        peek (attrDict aliasParams (stepD aliasParams (demoInit aliasParams) (.construct .trad [])) 2)
          "window_type_and_width" [.idx 1] := by
    decide +kernel
  obtain ⟨hT, hsafe, htgt, hop, h3, h4⟩ := key
  -- the function is written out: left to the unifier (`ne_of_apply_ne _ h3`) it evaluates the history
  exact ⟨hT, hist, hsafe, op, htgt, hop, ne_of_apply_ne (peek · "window_type_and_width" [.idx 1]) h3,
    ne_of_apply_ne (peek · "window_type_and_width" [.idx 1]) h4⟩

/-- **The `safe` hypothesis is necessary on the current table** (findings C15-c / C15-d): a dict
the caller holds and passes as `fft_settings` to two constructors is stored by alias
(`Op.safe` is false for that call), and a write through the first object changes the second
(and the caller's dict). The same holds for `instrument_transfer_function`. -/
theorem fft_settings_alias_is_shared :
    let mk : Op := .construct .psdProc [("fft_settings", .var "d")]
    let pre : List Op := [.assign 1 "d" (.node 0 (.dict ["n"]) [.sc (.int 4096)]), mk, mk]
    let σ := run settingsParams (demoInit settingsParams) pre
    let σ' := stepD settingsParams σ (.mutate 2 "fft_settings" [] (.key "n") (.sc (.int 5)))
    mk.safe settingsParams = false ∧
    peek (attrDict settingsParams σ 3) "fft_settings" [.key "n"] = some (Scalar.int 4096) ∧
    peek (attrDict settingsParams σ' 3) "fft_settings" [.key "n"] = some (Scalar.int 5) ∧
    attrDict settingsParams σ' 3 ≠ attrDict settingsParams σ 3 := by
  intro mk pre σ σ'
  have key : mk.safe settingsParams = false ∧
      peek (attrDict settingsParams σ 3) "fft_settings" [.key "n"] = some (Scalar.int 4096) ∧
      peek (attrDict settingsParams σ' 3) "fft_settings" [.key "n"] = some (Scalar.int 5) := by
    decide +kernel
  obtain ⟨hmk, h3, h3'⟩ := key
  exact ⟨hmk, h3, h3', ne_of_apply_ne (peek · "fft_settings" [.key "n"]) (by rw [h3, h3']; decide)⟩

end HV.C15
