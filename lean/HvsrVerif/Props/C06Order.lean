import HvsrVerif.Props.C06
/-!
# C06 (continued) — the decisions do not depend on the order of the windows

`fdwra_order_independent`: presenting the windows of a (well-formed) object in any other order — rows, peaks and both
accept masks permuted together by an arbitrary permutation `idx` of `0 … n-1` — makes the algorithm perform the same
number of iterations with the same trace (means, standard deviations, mean-curve peaks, bounds) and end with exactly
the permuted masks. Proved over `ℝ` (where sums are commutative) for every distribution pair, `n`, search range and
iteration limit, refusals included.
-/
namespace HV.C06

/-- `l[idx[0]], l[idx[1]], …` (numpy fancy indexing `l[idx]`) -/
def permL {β : Type} (idx : List Nat) (l : List β) : List β := idx.filterMap (fun i => l[i]?)

theorem permL_map {β γ : Type} (f : β → γ) (idx : List Nat) (l : List β) :
    permL idx (l.map f) = (permL idx l).map f :=
  filterMap_getElem_map f l idx

theorem permL_zip {β γ : Type} (idx : List Nat) (a : List β) (b : List γ) (h : a.length = b.length) :
    permL idx (List.zip a b) = List.zip (permL idx a) (permL idx b) := by
  unfold permL
  induction idx with
  | nil => rfl
  | cons i is ih =>
    rw [List.filterMap_cons, List.filterMap_cons, List.filterMap_cons, ih, List.zip_eq_zipWith, List.getElem?_zipWith]
    by_cases hi : i < a.length
    · rw [List.getElem?_eq_getElem hi, List.getElem?_eq_getElem (h ▸ hi)]; rfl
    · rw [List.getElem?_eq_none (Nat.le_of_not_lt hi), List.getElem?_eq_none (h ▸ Nat.le_of_not_lt hi)]

theorem permL_range {β : Type} (l : List β) : permL (List.range l.length) l = l := by
  unfold permL
  induction l with
  | nil => rfl
  | cons x t ih =>
    rw [List.length_cons, List.range_succ_eq_map, List.filterMap_cons]
    simp only [List.getElem?_cons_zero, List.filterMap_map]
    -- the tails agree by `ih` (found by `congr`)
    congr 1

theorem permL_perm {β : Type} (idx : List Nat) (l : List β) (h : idx.Perm (List.range l.length)) :
    (permL idx l).Perm l :=
  (h.filterMap fun i => l[i]?).trans (.of_eq (permL_range l))

theorem permL_length {β : Type} (idx : List Nat) (l : List β) (h : idx.Perm (List.range l.length)) :
    (permL idx l).length = l.length := (permL_perm idx l h).length_eq

/-- the same windows presented in the order `idx` -/
def permState (idx : List Nat) (s : HvTrad ℝ) : HvTrad ℝ :=
  { s with rows := permL idx s.rows, peaks := permL idx s.peaks, vWin := permL idx s.vWin, vPeak := permL idx s.vPeak }

/-- rows, peaks and both masks describe the same `n` windows -/
structure WF (n : Nat) (s : HvTrad ℝ) : Prop where
  rows : s.rows.length = n
  peaks : s.peaks.length = n
  vWin : s.vWin.length = n
  vPeak : s.vPeak.length = n

variable {n : Nat} {idx : List Nat}

theorem maskSel_perm {β : Type} (l : List β) (m : List Bool) (hl : l.length = n) (hm : m.length = n)
    (hidx : idx.Perm (List.range n)) : (maskSel (permL idx l) (permL idx m)).Perm (maskSel l m) := by
  unfold maskSel
  rw [← permL_zip idx l m (hl.trans hm.symm)]
  exact (permL_perm idx _ (by rw [List.length_zip, hl, hm, Nat.min_self]; exact hidx)).filterMap _

theorem peakFreqs_perm (s : HvTrad ℝ) (hwf : WF n s) (hidx : idx.Perm (List.range n)) :
    (permState idx s).peakFreqs.Perm s.peakFreqs := by
  unfold HvTrad.peakFreqs permState
  simp only [← permL_map]
  exact maskSel_perm _ _ ((List.length_map _).trans hwf.peaks) hwf.vPeak hidx

theorem validRows_perm (s : HvTrad ℝ) (hwf : WF n s) (hidx : idx.Perm (List.range n)) :
    (permState idx s).validRows.Perm s.validRows :=
  maskSel_perm _ _ hwf.rows hwf.vWin hidx

theorem meanCurve_of_perm (d : Dist) (s t : HvTrad ℝ) (hf : t.freq = s.freq) (hp : t.validRows.Perm s.validRows) :
    t.meanCurve d = s.meanCurve d := by
  by_cases h1 : s.validRows.length = 1
  · obtain ⟨r, hr⟩ := List.length_eq_one_iff.mp h1
    rw [meanCurve_single d s hr, meanCurve_single d t (List.perm_singleton.mp (hr ▸ hp))]
  · rw [meanCurve_multi d s h1, meanCurve_multi d t (hp.length_eq ▸ h1), hf]
    apply List.map_congr_left
    intro j _
    exact (unweighted_congr d (somes_perm ((hp.filterMap _).map some))).1

theorem meanCurvePeak_perm (d : Dist) (s : HvTrad ℝ) (hwf : WF n s) (hidx : idx.Perm (List.range n)) :
    (permState idx s).meanCurvePeak d = s.meanCurvePeak d := by
  unfold HvTrad.meanCurvePeak
  rw [meanCurve_of_perm d s (permState idx s) rfl (validRows_perm s hwf hidx)]
  rfl

theorem fdwraKeep_perm (lo up : Option ℝ) (s : HvTrad ℝ) (hwf : WF n s) :
    fdwraKeep lo up (permState idx s) = permL idx (fdwraKeep lo up s) := by
  unfold fdwraKeep permState
  simp only
  rw [← permL_zip idx _ _ (by rw [hwf.vPeak, hwf.peaks]), permL_map]

theorem fdwraKeep_length (lo up : Option ℝ) (s : HvTrad ℝ) (hwf : WF n s) : (fdwraKeep lo up s).length = n := by
  unfold fdwraKeep
  rw [List.length_map, List.length_zip, hwf.vPeak, hwf.peaks, Nat.min_self]

theorem fdwraApply_perm (lo up : Option ℝ) (s : HvTrad ℝ) (hwf : WF n s) :
    fdwraApply lo up (permState idx s) = permState idx (fdwraApply lo up s) := by
  have hl := fdwraKeep_length lo up s hwf
  have hz : (s.vPeak.zip (fdwraKeep lo up s)).length = s.vWin.length := by
    rw [List.length_zip, hwf.vPeak, hl, Nat.min_self, hwf.vWin]
  unfold fdwraApply
  rw [fdwraKeep_perm lo up s hwf]
  simp only [permState, permL_map,
    permL_zip idx (s.vPeak.zip (fdwraKeep lo up s)) s.vWin hz,
    permL_zip idx s.vPeak (fdwraKeep lo up s) (hwf.vPeak.trans hl.symm)]

theorem fdwraApply_wf (lo up : Option ℝ) (s : HvTrad ℝ) (hwf : WF n s) : WF n (fdwraApply lo up s) := by
  have hl := fdwraKeep_length lo up s hwf
  unfold fdwraApply
  refine ⟨hwf.rows, hwf.peaks, ?_, hl⟩
  rw [List.length_map, List.length_zip, List.length_zip, hwf.vPeak, hl, Nat.min_self, hwf.vWin, Nat.min_self]

theorem recomputePeaks_perm (r : Range ℝ) (s : HvTrad ℝ) (hwf : WF n s) (hidx : idx.Perm (List.range n)) :
    recomputePeaks r (permState idx s) = permState idx (recomputePeaks r s) := by
  have hp : (permL idx s.rows).Perm s.rows := permL_perm idx _ (hwf.rows.symm ▸ hidx)
  unfold recomputePeaks permState
  simp only [((hp.map _).map _).all_eq, permL_map, apply_ite (permL idx)]

theorem recomputePeaks_wf (r : Range ℝ) (s : HvTrad ℝ) (hrows : s.rows.length = n) : WF n (recomputePeaks r s) := by
  have h2 : ((s.rows.map fun row => findPeakBounded s.freq row r).map Option.isSome).length = n := by
    rw [List.length_map, List.length_map, hrows]
  refine ⟨hrows, (List.length_map _).trans hrows, ?_, h2⟩
  unfold recomputePeaks
  simp only
  split
  · rw [List.length_map, h2]
  · exact h2

/-- **Order independence.** For a well-formed object and any permutation `idx` of its `n` windows, the rejection run on
the permuted object performs the same number of iterations, produces the same trace, refuses in the same cases, and
ends with the permuted masks: window `idx[i]` of the original is accepted iff window `i` of the permuted object is. -/
theorem fdwra_order_independent (p : FdwraParams ℝ) (s : HvTrad ℝ) (n : Nat) (hwf : WF n s) (idx : List Nat)
    (hidx : idx.Perm (List.range n)) :
    fdwraTrad p (permState idx s) = (fdwraTrad p s).map (fun r => (r.1, permState idx r.2.1, r.2.2)) := by
  unfold fdwraTrad
  rw [updatePeaks_false_eq, updatePeaks_false_eq, recomputePeaks_perm p.range s hwf hidx]
  -- invariant: the four lists keep the common length `n`; the mean-curve peak is the same pair (`g = id`)
  exact loop_sim p (permState idx) (I := WF n) (hI := fdwraApply_wf)
    (iter_sim p _ _ (hIa := fdwraApply_wf) (hpf := fun s h => somes_perm (peakFreqs_perm s h hidx))
      (hmc := fun d s h => ⟨id, by rw [meanCurvePeak_perm d s h hidx]; cases s.meanCurvePeak d <;> rfl⟩)
      (hap := fun lo up s h => fdwraApply_perm lo up s h)) p.maxIter 0 _ (recomputePeaks_wf p.range s hwf.rows)

/-- the constructor produces well-formed objects (so the theorem applies to every object the library can build) -/
theorem init_wf (freq : List ℝ) (rows : List (List ℝ)) : WF rows.length (HvTrad.init freq rows) := by
  unfold HvTrad.init
  apply recomputePeaks_wf
  rfl

/-! ### Non-vacuity -/
example : permL [2, 0, 1] ['a', 'b', 'c'] = ['c', 'a', 'b'] := by decide +kernel
example : [2, 0, 1].Perm (List.range 3) := by decide +kernel

end HV.C06
