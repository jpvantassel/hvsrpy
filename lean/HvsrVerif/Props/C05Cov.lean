import HvsrVerif.Props.C05
/-!
# C05 (continued) — the covariance of the resonance is the textbook estimator

`cov_unweighted_eq`: for `N ≥ 2` paired values, `cov2 xs ys none` (the model of `np.cov(..., ddof=1)` as used by
`cov_fn`) is the sample covariance matrix with the `N − 1` denominator, in the space the caller transformed the values to
(log space for lognormal: `HvTrad.covFn` applies `d.pre` first); `cov_pairs_only` shows that windows without a peak
never enter it; `cov_diag_is_var`: the diagonal entry is the square of the `N − 1` standard deviation of the same values.
-/
namespace HV.C05

/-- `np.cov(x, y, ddof=1)`, as `cov2 … none` mirrors it, is the sample covariance matrix (`N − 1` denominator) of the paired values. -/
theorem cov_unweighted_eq (xs ys : List ℝ) (hlen : xs.length = ys.length) (h2 : 2 ≤ xs.length) :
    cov2 xs ys none =
      let N : ℝ := xs.length
      let mx := xs.sum / N
      let my := ys.sum / N
      some ((xs.map (fun x => (x - mx) * (x - mx))).sum / (N - 1),
            ((List.zip xs ys).map (fun p => (p.1 - mx) * (p.2 - my))).sum / (N - 1),
            (ys.map (fun y => (y - my) * (y - my))).sum / (N - 1)) := by
  have hpos : 0 < xs.length := Nat.lt_of_lt_of_le Nat.two_pos h2
  have hN : (xs.length : ℝ) ≠ 0 := Nat.cast_ne_zero.mpr hpos.ne'
  have hN1 : ((xs.length - 1 : ℕ) : ℝ) = (xs.length : ℝ) - 1 := Nat.cast_pred hpos
  have hN1' : (xs.length : ℝ) - 1 ≠ 0 := sub_ne_zero.mpr (Nat.cast_ne_one.mpr (Nat.ne_of_gt h2))
  unfold cov2
  -- the weights are `N` ones: a zip with them is a map, every factor `w` goes, `Σ w = Σ w² = N`;
  -- no division is by zero: the means divide by `N`, the three sums by `N − 1`
  simp only [ofNat_real, Nat.cast_one, sumA_real, List.map_const', zip_replicate_right xs _ (1 : ℝ) le_rfl,
    zip_replicate_right ys _ (1 : ℝ) hlen.ge,
    zip_replicate_right (xs.zip ys) xs.length (1 : ℝ) (List.length_zip ▸ Nat.min_le_left _ _), List.map_map,
    Function.comp_def, mul_one, one_mul, List.map_id', List.sum_replicate, nsmul_eq_mul,
    divO_real, hN, if_false, hN1, hN1']

/-- the diagonal of the covariance is the square of the `N − 1` standard deviation (normal distribution; for the
lognormal case apply it to the logarithms, which is what `covFn` passes) -/
theorem cov_diag_is_var (xs ys : List ℝ) (hlen : xs.length = ys.length) (h2 : 2 ≤ xs.length) (a b c s : ℝ)
    (hcov : cov2 xs ys none = some (a, b, c))
    (hstd : nanstdW .normal (xs.map some) none .nist = some s) : a = s ^ 2 := by
  rw [cov_unweighted_eq xs ys hlen h2] at hcov
  rw [std_normal_eq xs h2] at hstd
  rw [← Option.some.inj hstd, ← (Prod.mk.inj (Option.some.inj hcov)).1, Real.sq_sqrt]
  · simp only [pow_two]
  · exact div_nonneg (sum_map_nonneg _ _ fun x _ => sq_nonneg _) (sub_nonneg.mpr (Nat.one_le_cast.mpr (Nat.le_of_succ_le h2)))

/-- the (transformed) pairs of the windows that have a peak -/
noncomputable def peakPairs (s : HvTrad ℝ) (d : Dist) : List (ℝ × ℝ) :=
  (List.zip s.peakFreqs s.peakAmps).filterMap (fun p => p.1.bind (fun f => p.2.map (fun a => (d.pre f, d.pre a))))

/-- **Windows without a peak never enter the covariance**: `covFn` pairs only the windows whose peak exists, after
the transformation of the chosen distribution. -/
theorem cov_pairs_only (s : HvTrad ℝ) (d : Dist) :
    s.covFn d = cov2 ((peakPairs s d).map (·.1)) ((peakPairs s d).map (·.2)) none := by
  unfold HvTrad.covFn peakPairs
  simp only
  congr 2 <;>
  · apply List.filterMap_congr
    intro p _
    obtain ⟨p1, p2⟩ := p
    cases p1 <;> cases p2 <;> rfl

/-- **`cov_fn` is the sample covariance**: the covariance of the resonance is the `N − 1` sample covariance of the accepted windows that have a
peak (`N ≥ 2` of them) -/
theorem covFn_is_sample_cov (s : HvTrad ℝ) (d : Dist) (h2 : 2 ≤ (peakPairs s d).length) :
    s.covFn d =
      let xs := (peakPairs s d).map (·.1)
      let ys := (peakPairs s d).map (·.2)
      let N : ℝ := xs.length
      let mx := xs.sum / N
      let my := ys.sum / N
      some ((xs.map (fun x => (x - mx) * (x - mx))).sum / (N - 1),
            ((List.zip xs ys).map (fun p => (p.1 - mx) * (p.2 - my))).sum / (N - 1),
            (ys.map (fun y => (y - my) * (y - my))).sum / (N - 1)) := by
  rw [cov_pairs_only, cov_unweighted_eq _ _ (by rw [List.length_map, List.length_map]) ((List.length_map _).symm ▸ h2)]

end HV.C05
