import HvsrVerif.Props.C13
/-!
# C13 (continued) — maximum-value rejection with `normalized=True`

`maxvalue_normalized_iff`: with normalisation the window maxima are divided by the overall largest absolute sample `G`
(over all windows and examined components), and a window is kept iff its largest absolute sample is below
`threshold · G`. Stated under `0 < G` — for an all-zero recording numpy computes `0/0 = NaN` and rejects every window,
which the `Float` model reproduces and the correspondence covers; over `ℝ` division by zero is totalised, so that case
is excluded from the theorem rather than proved for the wrong reason.
-/
namespace HV.C13

theorem windowMax_nonneg (w : List (List ℝ)) : 0 ≤ windowMax w := by
  by_contra h
  have := (windowMax_lt_iff w 0).mp (not_le.mp h)
  exact lt_irrefl _ this.1

/-- the normaliser: the largest window maximum, characterised as a supremum -/
theorem overallMax_spec (wins : List (List (List ℝ))) (G : ℝ)
    (hG : maxL' ((wins.map windowMax).map absA) = some G) :
    ∀ s, G < s ↔ 0 < s ∧ ∀ v ∈ wins, ∀ c ∈ v, ∀ x ∈ c, |x| < s := by
  intro s
  rw [maxL_lt_iff (maxL'_eq_maxL _ ▸ hG)]
  simp only [List.forall_mem_map, absA_real, abs_of_nonneg (windowMax_nonneg _), windowMax_lt_iff, forall₂_and]
  -- every window contributes the same clause `0 < s`; there is a maximum, so there is a window
  cases wins with
  | nil => cases hG
  | cons v vs => exact and_congr_left fun _ => ⟨fun h => h v List.mem_cons_self, fun h _ _ => h⟩

/-- **Maximum-value rejection (normalised threshold)** keeps a window iff its largest absolute sample, relative to
the overall largest absolute sample `G > 0`, is below the threshold. -/
theorem maxvalue_normalized_iff (thr : ℝ) (wins : List (List (List ℝ))) (i : Nat) (w : List (List ℝ))
    (hw : wins[i]? = some w) (G : ℝ) (hG : maxL' ((wins.map windowMax).map absA) = some G) (hpos : 0 < G) :
    (maxValueMask thr true wins)[i]? = some (decide (0 < thr ∧ ∀ c ∈ w, ∀ x ∈ c, |x| < thr * G)) := by
  rw [maxValueMask_true thr wins hG, List.getElem?_map, hw]
  refine congrArg some (decide_eq_decide.mpr ?_)
  rw [div_lt_iff₀ hpos, windowMax_lt_iff, mul_pos_iff_of_pos_right hpos]

/-- consequence: the window that carries the overall largest sample is kept iff `1 < threshold` -/
theorem maxvalue_normalized_loudest (thr : ℝ) (wins : List (List (List ℝ))) (i : Nat) (w : List (List ℝ))
    (hw : wins[i]? = some w) (G : ℝ) (hG : maxL' ((wins.map windowMax).map absA) = some G) (hpos : 0 < G)
    (hloud : windowMax w = G) : (maxValueMask thr true wins)[i]? = some (decide (1 < thr)) := by
  rw [maxValueMask_true thr wins hG, List.getElem?_map, hw, Option.map_some, hloud, div_self hpos.ne']

/-! ### Non-vacuity -/
example : maxValueMask (1/2 : Rat) true [[[1, -2]], [[1, -4]]] = [false, false] := by decide +kernel
example : maxValueMask (3/4 : Rat) true [[[1, -2]], [[1, -4]]] = [true, false] := by decide +kernel

end HV.C13
