import HvsrVerif.Props.C11Order
/-!
# C11 (continued) — the weighted covariance depends only on the multiset of (fn, amplitude, weight) triples

`cov2_perm`: numpy's `cov(x, y, aweights=w)` as mirrored by `cov2` is unchanged by any simultaneous permutation of the
two value lists and the weights; `azimuth_order_cov`: hence the covariance of the resonance of an azimuthal result does
not depend on the order of the azimuths (each azimuth keeping its windows and therefore its weights).
-/
namespace HV.C11

theorem zip3_fst (xs ys ws : List ℝ) (h1 : xs.length = ys.length) :
    List.zip xs ws = (List.zip (List.zip xs ys) ws).map (fun p => (p.1.1, p.2)) := by
  conv_lhs => rw [← List.map_fst_zip (l₂ := ys) h1.le, List.zip_map_left]
  rfl

theorem zip3_snd (xs ys ws : List ℝ) (h1 : xs.length = ys.length) :
    List.zip ys ws = (List.zip (List.zip xs ys) ws).map (fun p => (p.1.2, p.2)) := by
  conv_lhs => rw [← List.map_snd_zip (l₁ := xs) h1.ge, List.zip_map_left]
  rfl

/-- **The weighted covariance is invariant under a simultaneous permutation** of values and weights. -/
theorem cov2_perm (xs ys ws xs' ys' ws' : List ℝ)
    (h1 : xs.length = ys.length) (h2 : xs.length = ws.length) (h1' : xs'.length = ys'.length) (h2' : xs'.length = ws'.length)
    (hp : (List.zip (List.zip xs ys) ws).Perm (List.zip (List.zip xs' ys') ws')) :
    cov2 xs ys (some ws) = cov2 xs' ys' (some ws') := by
  have hl : ws.length ≤ (xs.zip ys).length := by rw [List.length_zip, ← h1, Nat.min_self, h2]
  have hl' : ws'.length ≤ (xs'.zip ys').length := by rw [List.length_zip, ← h1', Nat.min_self, h2']
  have hw : ws.Perm ws' := List.map_snd_zip hl ▸ List.map_snd_zip hl' ▸ hp.map Prod.snd
  -- every other sum that `cov2` forms is the sum of a function of the triples
  have key := fun F : (ℝ × ℝ) × ℝ → ℝ => (hp.map F).sum_eq
  unfold cov2
  simp only [sumA_real, hw.sum_eq, (hw.map _).sum_eq,
    zip3_fst xs ys ws h1, zip3_snd xs ys ws h1,
    zip3_fst xs' ys' ws' h1', zip3_snd xs' ys' ws' h1',
    List.map_map, key]

theorem zip_pair_groups (A : ℕ) (groups : List (List (ℝ × ℝ))) :
    List.zip (groups.flatMap (fun g => g)) (groupWeights A (groups.map (fun g => g.map Prod.fst)))
      = groups.flatMap fun g => g.map (fun x => (x, 1 / ((A * g.length : ℕ) : ℝ))) := by
  unfold groupWeights
  rw [List.flatMap_map]
  simp only [List.length_map]
  exact zip_flatMap_replicate _ groups

/-- **The covariance does not depend on the order of the azimuths.** `groups` holds, per azimuth, the (transformed)
`(fn frequency, fn amplitude)` pairs of its accepted windows. -/
theorem azimuth_order_cov (groups groups' : List (List (ℝ × ℝ))) (hp : groups.Perm groups') :
    cov2 ((groups.flatMap (fun g => g)).map Prod.fst) ((groups.flatMap (fun g => g)).map Prod.snd)
        (some (groupWeights groups.length (groups.map (fun g => g.map Prod.fst)))) =
      cov2 ((groups'.flatMap (fun g => g)).map Prod.fst) ((groups'.flatMap (fun g => g)).map Prod.snd)
        (some (groupWeights groups'.length (groups'.map (fun g => g.map Prod.fst)))) := by
  have hlen : ∀ (A : ℕ) (gs : List (List (ℝ × ℝ))),
      (groupWeights A (gs.map (fun g => g.map Prod.fst))).length = (gs.flatMap (fun g => g)).length := by
    intro A gs
    rw [groupWeights_length, List.flatMap_map, List.length_flatMap, List.length_flatMap]
    simp only [List.length_map]
  apply cov2_perm
  · rw [List.length_map, List.length_map]
  · rw [List.length_map, hlen]
  · rw [List.length_map, List.length_map]
  · rw [List.length_map, hlen]
  · rw [← List.zip_of_prod rfl rfl, ← List.zip_of_prod rfl rfl, zip_pair_groups, zip_pair_groups, hp.length_eq]
    exact hp.flatMap_right _

end HV.C11
