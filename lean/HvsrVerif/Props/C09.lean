import HvsrVerif.Model.Effects
import HvsrVerif.Props.C01
import HvsrVerif.Proofs.ProcessLemmas
/-!
# C09 — Processing has no side effects on its inputs and is repeatable

`Model/Process.lean` is a pure function of its inputs, so repeatability reduces to the one piece of state that
`process` writes back: `settings.fft_settings` (`prepareFft`). Side effects on the recordings are a question of
aliasing: `Model/Effects.lean` gives the store semantics and the two variants (taper a copy / taper in place).
-/
namespace HV.C09
open HV.Heap

theorem get_set_ne {β} (s : Store β) {l l' : Nat} (v : β) (h : l' ≠ l) : (s.set l v).get l' = s.get l' := if_neg h

theorem step_preserves {β} (s : Store β) (e : Eff β) (es : List (Eff β)) (hwf : s.WF) (start : Nat)
    (hstart : start ≤ s.next) (hw : WritesOnlyFresh start (e :: es)) (l : Nat) (hl : l < start) :
    ((step s e).1).get l = s.get l ∧ ((step s e).1).WF ∧ start ≤ ((step s e).1).next ∧ WritesOnlyFresh start es := by
  cases e with
  | fresh srcs f =>
    refine ⟨if_neg (Nat.ne_of_lt (hl.trans_le hstart)), fun l' hl' => ?_, Nat.le_succ_of_le hstart, hw⟩
    exact (if_neg (Nat.ne_of_gt (Nat.lt_of_succ_le hl'))).trans (hwf l' (Nat.le_of_succ_le hl'))
  | write dst f =>
    cases hg : s.get dst with
    | none => simp only [step, hg]; exact ⟨trivial, hwf, hstart, hw.2⟩
    | some v =>
      simp only [step, hg]
      have hd : dst < s.next := not_le.mp fun hc => Option.some_ne_none v (hg.symm.trans (hwf dst hc))
      exact ⟨get_set_ne s _ (Nat.ne_of_lt (hl.trans_le hw.1)),
        fun l' hl' => (get_set_ne s _ (Nat.ne_of_gt (hd.trans_le hl'))).trans (hwf l' hl'), hstart, hw.2⟩

/-- **No side effects.** A processing path all of whose writes go to buffers it allocated itself leaves every
buffer of the caller (address below `start`) exactly as it was. -/
theorem caller_store_unchanged {β} (es : List (Eff β)) (s : Store β) (hwf : s.WF) (start : Nat)
    (hstart : start ≤ s.next) (hw : WritesOnlyFresh start es) (l : Nat) (hl : l < start) :
    (run s es).get l = s.get l := by
  induction es generalizing s with
  | nil => rfl
  | cons e es ih =>
    obtain ⟨h1, h2, h3, h4⟩ := step_preserves s e es hwf start hstart hw l hl
    exact (ih _ h2 h3 h4).trans h1

/-- the repaired paths (taper applied to a copy) write only to fresh buffers … -/
theorem copy_path_writes_fresh {β} (src next : Nat) (taper : β → β) (spectrum : List β → β) (hsrc : src < next) :
    WritesOnlyFresh next (componentEffects true src next taper spectrum).1 :=
  ⟨le_rfl, trivial⟩

/-- … whereas the old in-place taper writes into the caller's buffer (the hypothesis of `caller_store_unchanged`
fails): this is repaired defect C09-a. -/
theorem inplace_path_writes_caller {β} (src next : Nat) (taper : β → β) (spectrum : List β → β) (hsrc : src < next) :
    ¬ WritesOnlyFresh next (componentEffects false src next taper spectrum).1 :=
  fun h => absurd h.1 (not_le.mpr hsrc)

/-- concrete witness: tapering in place changes what the caller sees, tapering a copy does not -/
theorem inplace_changes_caller :
    (run (Store.ofList [(5 : Nat)]) (componentEffects false 0 1 (· * 2) (fun l => l.sum)).1).get 0 = some 10 ∧
    (run (Store.ofList [(5 : Nat)]) (componentEffects true 0 1 (· * 2) (fun l => l.sum)).1).get 0 = some 5 := by
  decide +kernel

/-- **Repeatable.** Running the same processing again on the same recordings with the same settings object (whose
`fft_settings` were updated by the first run) returns the identical result whenever the state stored by the first
run is a fixed point of `prepare_fft_settings` — by `C01.prepareFft_idem_iff` every state except `{"n": None}`
(known finding C09-c). -/
theorem process_repeatable (m : Method ℝ) (cfg : ProcCfg ℝ) (fft : FftState) (pol : Policy) (recs : List (Rec3 ℝ))
    (r : ProcResult ℝ) (h : processTraditional m cfg fft pol recs = .ok r) (hne : fft ≠ .nNone) :
    processTraditional m cfg r.fft pol recs = .ok r := by
  -- a run sees `fft` only through `prepareFft fft (maxSamples recs)`, which the first run stored and `hne` makes a fixed point
  rw [← h, (processTraditional_ok h).1, processTraditional, (C01.prepareFft_idem_iff fft (maxSamples recs)).mpr hne]
  rfl

/-- … and from `{"n": None}` the two runs use different FFT lengths (the model reproduces known finding C09-c) -/
theorem nNone_not_repeatable : prepareFft .nNone 300 = .n 300 ∧ prepareFft (.n 300) 300 = .n 32768 := by decide +kernel

end HV.C09
