import HvsrVerif.Proofs.Readers
/-!
# C07 — Readers put the stored samples on the right components for every format

The property theorems about the token-level model `Model/Readers.lean` (which mirrors `hvsrpy/data_wrangler.py`;
decoding by obspy / `re` is external and tied by the correspondence harness), with `arrange_sound` / `arrange_errors`,
which the obspy theorems rest on, and the test vectors at the end; the lemmas about the model are in `Proofs/Readers.lean`.
Sample values are an arbitrary type `σ`, sample lists are arbitrary lists.
-/
namespace HV.C07
open HV.Rd
variable {σ τ φ κ δ ρ : Type}

/-! ## obspy based readers: `_arrange_traces` -/

/-- **All 6 orders.** For every permutation of three traces whose channel names end in `N`, `E`, `Z` the routed
`(ns, ew, vt)` is the same: the `N` trace, the `E` trace, the `Z` trace. -/
theorem arrange_perm (a b c : String × τ)
    (ha : lastChar a.1 = some 'N') (hb : lastChar b.1 = some 'E') (hc : lastChar c.1 = some 'Z')
    (l : List (String × τ)) (hl : l.Perm [a, b, c]) :
    arrangeTraces l = .ok (a.2, b.2, c.2) := by
  rw [arrangeTraces_perm hl]
  simp only [arrangeTraces, arrangeLoop, arrangeStep_of_suffix (s := .n) ha, arrangeStep_of_suffix (s := .e) hb,
    arrangeStep_of_suffix (s := .z) hc]
  rfl

/-- **Soundness of the routing, any list.** Whenever `_arrange_traces` returns `(ns, ew, vt)`, the list holds exactly one
trace whose channel ends in `N`, one in `E`, one in `Z`, no trace with another suffix, and the returned components are
those traces. -/
theorem arrange_sound (l : List (String × τ)) (n e z : τ) (h : arrangeTraces l = .ok (n, e, z)) :
    (∃ t ∈ l, lastChar t.1 = some 'N' ∧ t.2 = n) ∧ (∃ t ∈ l, lastChar t.1 = some 'E' ∧ t.2 = e) ∧
    (∃ t ∈ l, lastChar t.1 = some 'Z' ∧ t.2 = z) ∧
    suffixCount 'N' l = 1 ∧ suffixCount 'E' l = 1 ∧ suffixCount 'Z' l = 1 ∧
    (∀ t ∈ l, lastChar t.1 = some 'N' ∨ lastChar t.1 = some 'E' ∨ lastChar t.1 = some 'Z') := by
  unfold arrangeTraces at h
  split at h
  · cases h
  · rename_i st hloop
    split at h
    · rename_i n' e' z' hn he hz
      cases h
      -- the loop starts from the empty state, so a slot filled at the end was filled by the one trace with its suffix
      have key : ∀ (s : Slot) {v}, st.get s = some v →
          suffixCount s.char l = 1 ∧ ∃ t ∈ l, lastChar t.1 = some s.char ∧ t.2 = v := fun s v hv => by
        obtain ⟨h0, _⟩ | ⟨_, h1, t, ht, hl, h2⟩ := arrangeLoop_slot s hloop
        · rw [hv] at h0; cases s <;> cases h0
        · exact ⟨h1, t, ht, hl, Option.some.inj (h2.symm.trans hv)⟩
      exact ⟨(key .n hn).2, (key .e he).2, (key .z hz).2, (key .n hn).1, (key .e he).1, (key .z hz).1,
        fun _ => arrangeLoop_suffixes hloop⟩
    · cases h

/-- **Missing, duplicated or misnamed component ⇒ error** (any list, any position): if some suffix among `N`, `E`, `Z` does not
occur exactly once, or some trace carries another suffix, no triple is returned. -/
theorem arrange_errors (l : List (String × τ))
    (h : suffixCount 'N' l ≠ 1 ∨ suffixCount 'E' l ≠ 1 ∨ suffixCount 'Z' l ≠ 1 ∨
      ∃ t ∈ l, lastChar t.1 ≠ some 'N' ∧ lastChar t.1 ≠ some 'E' ∧ lastChar t.1 ≠ some 'Z') :
    ∃ err, arrangeTraces l = .error err := by
  refine exists_error fun ⟨n, e, z⟩ hres => ?_
  obtain ⟨_, _, _, cN, cE, cZ, hall⟩ := arrange_sound l n e z hres
  rcases h with h | h | h | ⟨t, ht, h1, h2, h3⟩
  · exact h cN
  · exact h cE
  · exact h cZ
  · rcases hall t ht with h' | h' | h'
    exacts [h1 h', h2 h', h3 h']

/-- the obspy based readers (`_read_mseed`, `_read_sac`, `_read_gcf` after decoding): for all 6 orders of three equally long
traces with the same time step, the recording holds the `N`, `E`, `Z` samples; an explicit `degrees_from_north` is used,
otherwise 0 -/
theorem obspy_read_perm (kn ke kz : String) (sn se sz : List σ) (dt : Rat) (deg : Option Rat)
    (hn : lastChar kn = some 'N') (he : lastChar ke = some 'E') (hz : lastChar kz = some 'Z')
    (hle : se.length = sn.length) (hlz : sz.length = sn.length)
    (l : List (String × Comp σ)) (hl : l.Perm [(kn, ⟨sn, dt⟩), (ke, ⟨se, dt⟩), (kz, ⟨sz, dt⟩)]) :
    readObspy l deg = .ok { ns := ⟨sn, dt⟩, ew := ⟨se, dt⟩, vt := ⟨sz, dt⟩, deg := degNorm (deg.getD 0) } := by
  rw [readObspy_perm hl, readObspy, if_neg (by simp),
    arrange_perm (τ := Comp σ) (kn, ⟨sn, dt⟩) (ke, ⟨se, dt⟩) (kz, ⟨sz, dt⟩) hn he hz _ (.refl _)]
  exact mkRec_of_eq _ rfl rfl hle hlz

/-- more or fewer than three traces, or a missing/duplicated/misnamed component, or components of unequal length:
the obspy based readers raise -/
theorem obspy_read_errors (l : List (String × Comp σ)) (deg : Option Rat)
    (h : l.length ≠ 3 ∨ suffixCount 'N' l ≠ 1 ∨ suffixCount 'E' l ≠ 1 ∨ suffixCount 'Z' l ≠ 1 ∨
      ∃ t ∈ l, lastChar t.1 ≠ some 'N' ∧ lastChar t.1 ≠ some 'E' ∧ lastChar t.1 ≠ some 'Z') :
    ∃ err, readObspy l deg = .error err := by
  unfold readObspy
  rcases h with h | h
  · exact ⟨_, if_pos h⟩
  · split
    · exact ⟨_, rfl⟩
    · obtain ⟨err, he⟩ := arrange_errors l h
      rw [he]
      exact ⟨_, rfl⟩

/-! ## SAF -/

/-- **The returned components are the columns so labelled** (any rows, any header): whenever `_read_saf` returns a recording,
`vt`/`ns`/`ew` are columns `CHv`/`CHn`/`CHe` of the rows where `v`, `n`, `e` are the channel numbers labelled `V`, `N`, `E`;
the time step is `1/SAMP_FREQ` and `NDAT` equals the number of rows. -/
theorem saf_columns (h : SafHeader) (deg : Option Rat) (rows : List (σ × σ × σ)) (r : Rec3 σ)
    (hr : safAssemble h deg rows = .ok r) :
    ∃ v n e fs, h.vCh = some v ∧ h.nCh = some n ∧ h.eCh = some e ∧ h.fs = some fs ∧ h.ndat = some rows.length ∧
      r.vt.samples.map some = rows.map (rowGet · v) ∧
      r.ns.samples.map some = rows.map (rowGet · n) ∧
      r.ew.samples.map some = rows.map (rowGet · e) ∧
      r.ns.dt = 1 / (fs : Rat) ∧ r.ew.dt = 1 / (fs : Rat) ∧ r.vt.dt = 1 / (fs : Rat) := by
  obtain ⟨fs, v, n, e, _, k⟩ := saf_unfold hr
  exact ⟨v, n, e, fs, k.vCh, k.nCh, k.eCh, k.sampFreq, k.ndat, k.vt, k.ns, k.ew, k.dt_ns, k.dt_ew, k.dt_vt⟩

/-- **For every assignment of V/N/E to the three channel columns** (`v`, `n`, `e` any of 0, 1, 2 — in particular the 6
permutations), a complete header whose `NDAT` equals the number of rows, and an orientation the rule accepts, `_read_saf`
returns a recording — whose components are then the labelled columns by `saf_columns`. -/
theorem saf_columns_total (v n e fs : Nat) (rot : Option Nat) (deg : Option Rat) (rows : List (σ × σ × σ)) (d : Rat)
    (hv : v < 3) (hn : n < 3) (he : e < 3) (hfs : fs ≠ 0)
    (hd : safDegrees deg rot n e = .ok d) :
    ∃ r, safAssemble { version := true, ndat := some rows.length, fs := some fs, vCh := some v, nCh := some n,
                       eCh := some e, northRot := rot } deg rows = .ok r ∧ r.deg = degNorm d := by
  obtain ⟨⟨vt, ns, ew, found⟩, hl⟩ := rowLoop_total rows.length v n e hv hn he rows 0 (Nat.zero_add _).le
  obtain ⟨rfl, c0, c1, c2⟩ := rowLoop_ok hl
  have len {as : List σ} {c : Nat} (h : as.map some = rows.map (rowGet · c)) : as.length = rows.length := by
    simpa using congrArg List.length h
  refine ⟨{ ns := ⟨ns, 1 / (fs : Rat)⟩, ew := ⟨ew, 1 / (fs : Rat)⟩, vt := ⟨vt, 1 / (fs : Rat)⟩, deg := degNorm d }, ?_, rfl⟩
  simp only [safAssemble, Bool.not_true, Bool.false_eq_true, if_false, hfs, hd, hl, checkNpts, Nat.zero_add, ne_eq, not_true_eq_false]
  exact mkRec_of_eq _ rfl rfl ((len c2).trans (len c1).symm) ((len c0).trans (len c1).symm)

/-! ## MiniShark -/

/-- **Header scaling.** Whenever `_read_minishark` returns a recording, the columns are vertical, north, east in that order and
every stored count is divided by the gain and by the conversion factor; time step `1/sample rate`; `Sample number` equals the
number of rows. -/
theorem minishark_scale (h : MsharkHeader) (deg : Option Rat) (rows : List (Int × Int × Int)) (r : Rec3 Rat)
    (hr : minisharkAssemble h deg rows = .ok r) :
    ∃ gain conv fs, h.gain = some gain ∧ h.conv = some conv ∧ h.fs = some fs ∧ h.ndat = some rows.length ∧
      r.vt.samples = rows.map (fun x => (x.1 : Rat) / ((gain : Rat) * (conv : Rat))) ∧
      r.ns.samples = rows.map (fun x => (x.2.1 : Rat) / ((gain : Rat) * (conv : Rat))) ∧
      r.ew.samples = rows.map (fun x => (x.2.2 : Rat) / ((gain : Rat) * (conv : Rat))) ∧
      r.ns.dt = 1 / (fs : Rat) ∧ r.deg = degNorm (deg.getD 0) := by
  obtain ⟨fs, gain, conv, k⟩ := mshark_unfold hr
  refine ⟨gain, conv, fs, k.gain, k.conv, k.sampRate, k.ndat, ?_, ?_, ?_, k.dt_ns, k.orient⟩
  · rw [k.vt, List.map_map, msharkScale_eq]; rfl
  · rw [k.ns, List.map_map, msharkScale_eq]; rfl
  · rw [k.ew, List.map_map, msharkScale_eq]; rfl

/-- scaling is undone by multiplying with gain × conversion (non-zero factors): the stored count is recovered exactly -/
theorem minishark_scale_inverse (gain conv : Nat) (x : Int) (hg : gain ≠ 0) (hc : conv ≠ 0) :
    msharkScale gain conv x * ((gain : Rat) * (conv : Rat)) = (x : Rat) := by
  rw [msharkScale, div_div, div_mul_cancel₀ _ (mul_ne_zero (Nat.cast_ne_zero.mpr hg) (Nat.cast_ne_zero.mpr hc))]

/-! ## PEER -/

/-- **Numeric azimuth codes, all 6 file orders.** Three consistent files — a vertical coded `UP` or `VER` and two horizontals
with azimuth codes `a`, `b`, `a` strictly closer to north than `b` — in any order: the file coded `a` becomes `ns`, the one
coded `b` becomes `ew`, the `UP`/`VER` file `vt`; all are trimmed to the shortest; `degrees_from_north` is the explicit value
if given and `a mod 360` otherwise (then normalised by the constructor). -/
theorem peer_routing (kU ka kb : String) (a b : Nat) (d : Rat) (sU sa sb : List σ) (deg : Option Rat)
    (hU : kU = "UP" ∨ kU = "VER") (ha : parseNat ka = some a) (hb : parseNat kb = some b)
    (ha1 : ka ≠ "UP") (ha2 : ka ≠ "VER") (hb1 : kb ≠ "UP") (hb2 : kb ≠ "VER")
    (hlt : (relAz a).natAbs < (relAz b).natAbs)
    (l : List (String × List σ)) (hl : l.Perm [(kU, sU), (ka, sa), (kb, sb)]) :
    peerAssemble (l.map (peerOf d)) deg =
      .ok { ns := ⟨sa.take (min (min sa.length sb.length) sU.length), d⟩,
            ew := ⟨sb.take (min (min sa.length sb.length) sU.length), d⟩,
            vt := ⟨sU.take (min (min sa.length sb.length) sU.length), d⟩,
            deg := degNorm (deg.getD (((a : Int) % 360 : Int) : Rat)) } :=
  peerAssemble_of_route d l deg sa sb sU a
    (peerRoute_numeric (cU := ⟨sU, d⟩) (ca := ⟨sa, d⟩) (cb := ⟨sb, d⟩) hU ha hb ha1 ha2 hb1 hb2 hlt (hl.map (compOf d)))

/-- **Letter codes, all 6 file orders**: vertical = the key ending in `Z`/`z`, north = `..N`, east = `..E`, orientation 0 unless
given explicitly -/
theorem peer_routing_letters (kZ kN kE : String) (d : Rat) (sZ sN sE : List σ) (deg : Option Rat)
    (hZ : lastChar kZ = some 'Z' ∨ lastChar kZ = some 'z') (hN : lastChar kN = some 'N') (hE : lastChar kE = some 'E')
    (l : List (String × List σ)) (hl : l.Perm [(kZ, sZ), (kN, sN), (kE, sE)]) :
    peerAssemble (l.map (peerOf d)) deg =
      .ok { ns := ⟨sN.take (min (min sN.length sE.length) sZ.length), d⟩,
            ew := ⟨sE.take (min (min sN.length sE.length) sZ.length), d⟩,
            vt := ⟨sZ.take (min (min sN.length sE.length) sZ.length), d⟩,
            deg := degNorm (deg.getD 0) } :=
  peerAssemble_of_route d l deg sN sE sZ 0
    (peerRoute_letters (cZ := ⟨sZ, d⟩) (cN := ⟨sN, d⟩) (cE := ⟨sE, d⟩) hZ hN hE (hl.map (compOf d)))

/-- equal lengths: nothing is trimmed -/
theorem peer_no_trim (s1 s2 s3 : List σ) (h2 : s2.length = s1.length) (h3 : s3.length = s1.length) :
    s1.take (min (min s1.length s2.length) s3.length) = s1 ∧ s2.take (min (min s1.length s2.length) s3.length) = s2 ∧
    s3.take (min (min s1.length s2.length) s3.length) = s3 := by
  simp [h2, h3]

/-! ## sample count against the header -/

/-- **A sample count that disagrees with the header raises**, in each of the three text formats, whatever else the file holds. -/
theorem npts_mismatch_errors :
    (∀ (h : SafHeader) (deg : Option Rat) (rows : List (σ × σ × σ)),
        h.ndat ≠ some rows.length → ∃ err, safAssemble h deg rows = .error err) ∧
    (∀ (h : MsharkHeader) (deg : Option Rat) (rows : List (Int × Int × Int)),
        h.ndat ≠ some rows.length → ∃ err, minisharkAssemble h deg rows = .error err) ∧
    (∀ (files : List (PeerFile σ)) (deg : Option Rat),
        (∃ f ∈ files, f.npts ≠ some f.samples.length) → ∃ err, peerAssemble files deg = .error err) := by
  refine ⟨?_, ?_, ?_⟩
  · intro h deg rows hne
    refine exists_error fun r hres => ?_
    obtain ⟨_, _, _, _, _, k⟩ := saf_unfold hres
    exact hne k.ndat
  · intro h deg rows hne
    refine exists_error fun r hres => ?_
    obtain ⟨_, _, _, k⟩ := mshark_unfold hres
    exact hne k.ndat
  · rintro files deg ⟨f, hf, hne⟩
    unfold peerAssemble
    cases hres : peerFiles files with
    | error err => exact ⟨err, rfl⟩
    | ok comps => exact absurd (peerFiles_ok hres hf) hne

/-- the check itself: `_check_npts` raises exactly when the counts differ -/
theorem checkNpts_spec (hdr found : Nat) : checkNpts hdr found = .ok () ↔ hdr = found := by
  simp [checkNpts]

/-! ## orientation -/

/-- `float(d - 360*(d // 360))`: the stored orientation lies in `[0, 360)` and differs from the given one by a multiple of 360 -/
theorem degNorm_spec (d : Rat) : 0 ≤ degNorm d ∧ degNorm d < 360 ∧ ∃ k : Int, d = degNorm d + 360 * k := by
  rw [degNorm_eq]
  exact ⟨Int.sub_floor_div_mul_nonneg d (by norm_num), Int.sub_floor_div_mul_lt d (by norm_num), ⌊d / 360⌋, by ring⟩

/-- **Explicit `degrees_from_north` overrides file metadata in every reader; otherwise the file's rule applies.**
(PEER: see `peer_routing`, `peer_routing_letters`, which carry `deg.getD (a mod 360)` / `deg.getD 0`.) -/
theorem orientation_rules :
    -- obspy based readers: explicit value, else 0
    (∀ (l : List (String × Comp σ)) (deg : Option Rat) (r : Rec3 σ), readObspy l deg = .ok r → r.deg = degNorm (deg.getD 0)) ∧
    -- SAF with an explicit value: NORTH_ROT and the channel layout are not consulted
    (∀ (h : SafHeader) (d : Rat) (rows : List (σ × σ × σ)) (r : Rec3 σ), safAssemble h (some d) rows = .ok r → r.deg = degNorm d) ∧
    -- SAF without: keyword missing ⇒ 0; CH1 north ⇒ NORTH_ROT; CH1 east ⇒ NORTH_ROT + 90; otherwise an error
    (∀ (h : SafHeader) (rows : List (σ × σ × σ)) (r : Rec3 σ), safAssemble h none rows = .ok r →
        (h.northRot = none ∧ r.deg = 0) ∨
        (∃ rot, h.northRot = some rot ∧ h.nCh = some 1 ∧ r.deg = degNorm (rot : Rat)) ∨
        (∃ rot, h.northRot = some rot ∧ h.nCh ≠ some 1 ∧ h.eCh = some 1 ∧ r.deg = degNorm ((rot : Rat) + 90))) ∧
    -- MiniShark: explicit value, else 0
    (∀ (h : MsharkHeader) (deg : Option Rat) (rows : List (Int × Int × Int)) (r : Rec3 Rat),
        minisharkAssemble h deg rows = .ok r → r.deg = degNorm (deg.getD 0)) := by
  refine ⟨?_, ?_, ?_, ?_⟩
  · intro l deg r hr
    unfold readObspy at hr
    split at hr
    · cases hr
    · split at hr
      · cases hr
      · obtain ⟨rfl, _, _⟩ := mkRec_inv hr
        rfl
  · intro h d rows r hr
    obtain ⟨_, _, _, _, d', k⟩ := saf_unfold hr
    obtain rfl : d = d' := Except.ok.inj k.rule
    exact k.orient
  · intro h rows r hr
    obtain ⟨_, _, n, e, d, k⟩ := saf_unfold hr
    rw [k.orient, k.nCh, k.eCh]
    rcases safDegrees_none_ok k.rule with ⟨hrot, rfl⟩ | ⟨rot, hrot, ⟨rfl, rfl⟩ | ⟨h1, rfl, rfl⟩⟩
    · exact .inl ⟨hrot, degNorm_zero⟩
    · exact .inr (.inl ⟨rot, hrot, rfl, rfl⟩)
    · exact .inr (.inr ⟨rot, hrot, fun hc => h1 (Option.some.inj hc), rfl, rfl⟩)
  · intro h deg rows r hr
    obtain ⟨_, _, _, k⟩ := mshark_unfold hr
    exact k.orient

/-- the SAF rule refuses a file whose CH1 is the vertical when it has to use NORTH_ROT (the code's own precondition) -/
theorem saf_rule_needs_horizontal_ch1 (h : SafHeader) (rows : List (σ × σ × σ)) (rot : Nat)
    (hrot : h.northRot = some rot) (hn : h.nCh ≠ some 1) (he : h.eCh ≠ some 1) :
    ∃ err, safAssemble h none rows = .error err := by
  refine exists_error fun r hres => ?_
  obtain ⟨h0, _⟩ | ⟨_, _, h1, _⟩ | ⟨_, _, _, h1, _⟩ := (orientation_rules (σ := σ)).2.2.1 h rows r hres
  · rw [hrot] at h0; cases h0
  · exact hn h1
  · exact he h1

/-! ## `read`: argument broadcasting -/

/-- without the length hypothesis (`zip` semantics): every call that is made is still the right one -/
theorem broadcast_prefix (fnames : List (FArg φ)) (kw : Arg κ) (dg : Arg δ) (i : Nat)
    (hi : i < (broadcastArgs fnames kw dg).length) :
    ∃ f k d, fnames[i]? = some f ∧ kw.get? i = some k ∧ dg.get? i = some d ∧
      (broadcastArgs fnames kw dg)[i]? = some (unwrapSingle f, k, d) := by
  induction fnames generalizing kw dg i with
  | nil => cases hi
  | cons f fs ih =>
    unfold broadcastArgs at hi ⊢
    split at hi
    · rename_i k d hk hd
      cases i with
      | zero => exact ⟨f, k, d, rfl, kw.head?_eq ▸ hk, dg.head?_eq ▸ hd, rfl⟩
      | succ j =>
        obtain ⟨f', k', d', h1, h2, h3, h4⟩ := ih kw.tail dg.tail j (Nat.lt_of_succ_lt_succ hi)
        exact ⟨f', k', d', h1, kw.get?_tail j ▸ h2, dg.get?_tail j ▸ h3, h4⟩
    · cases hi

/-- **Recording `i` receives `kwargs_i` and `deg_i`, whether each argument is scalar or per-recording, independently of the
other argument.** With one entry per recording in every collection argument, `read` calls `read_single` once per entry of
`fnames`, in order, and call `i` gets the (unwrapped) `i`-th entry together with `kw.get? i` and `dg.get? i` — for a scalar
that is the scalar, for a collection its `i`-th element. Each of the two lookups mentions its own argument only. -/
theorem broadcast_spec (fnames : List (FArg φ)) (kw : Arg κ) (dg : Arg δ)
    (hk : ∀ l, kw = .many l → l.length = fnames.length) (hd : ∀ l, dg = .many l → l.length = fnames.length) :
    (broadcastArgs fnames kw dg).length = fnames.length ∧
    ∀ i (hi : i < fnames.length), ∃ k d, kw.get? i = some k ∧ dg.get? i = some d ∧
      (broadcastArgs fnames kw dg)[i]? = some (unwrapSingle fnames[i], k, d) := by
  have hlen := broadcast_length fnames kw dg hk hd
  refine ⟨hlen, fun i hi => ?_⟩
  obtain ⟨f, k, d, h1, h2, h3, h4⟩ := broadcast_prefix fnames kw dg i (hlen ▸ hi)
  cases (List.getElem?_eq_getElem hi).symm.trans h1
  exact ⟨k, d, h2, h3, h4⟩

/-- scalar means "the same for every recording", a collection means "its own element" -/
theorem arg_get (a : κ) (l : List κ) (i : Nat) : (Arg.scalar a).get? i = some a ∧ (Arg.many l).get? i = l[i]? :=
  ⟨rfl, rfl⟩

/-- "if entry is a list with only a single entry, remove the list" — and nothing else is changed -/
theorem unwrap_spec (f : φ) (l : List φ) (hl : l.length ≠ 1) :
    unwrapSingle (.many [f]) = .one f ∧ unwrapSingle (.one f) = .one f ∧ unwrapSingle (.many l) = .many l := by
  refine ⟨rfl, rfl, ?_⟩
  match l, hl with
  | [], _ => rfl
  | [x], h => exact absurd rfl h
  | _ :: _ :: _, _ => rfl

/-! ## `read_single`: reader dispatch -/

/-- the first reader (in dictionary order `mseed, saf, minishark, sac, gcf, peer`) that succeeds provides the recording -/
theorem read_single_first_success (results : List (Except RdErr ρ)) (i : Nat) (r : ρ) (hi : i < 6)
    (hr : results[i]? = some (.ok r)) (hpre : ∀ j, j < i → ∃ e, results[j]? = some (.error e)) :
    readSingle results = .ok r := by
  -- 6 is `dispatchOrder.length`, 5 the position of `peer`, the last reader and the only one whose failure is re-raised
  have hd : ∀ j, j < 6 → ∃ n, dispatchOrder[j]? = some n ∧ (j < 5 → n ≠ reraiseName) := by decide +kernel
  obtain ⟨n, hn, _⟩ := hd i hi
  refine trial_of_getElem? _ i n r (List.getElem?_zip_eq_some.mpr ⟨hn, hr⟩) fun j hj => ?_
  obtain ⟨m, hm, hne⟩ := hd j (hj.trans hi)
  obtain ⟨e, he⟩ := hpre j hj
  exact ⟨m, e, List.getElem?_zip_eq_some.mpr ⟨hm, he⟩, hne (by omega)⟩

/-- **An unrecognised file raises**: when every reader fails `read_single` raises (the PEER reader's exception) -/
theorem read_single_all_fail (e0 e1 e2 e3 e4 e5 : RdErr) :
    readSingle (ρ := ρ) [.error e0, .error e1, .error e2, .error e3, .error e4, .error e5] = .error e5 := by
  simp [readSingle, dispatchOrder, dispatchTable, trial, reraiseName]

/-! ## non-vacuity: the hypotheses are satisfiable, the error branches are reachable -/

/-- all 6 orders really occur and give the same routing (channel names of three naming conventions) -/
example : [[("BHN", 1), ("BHE", 2), ("BHZ", 3)], [("BHN", 1), ("BHZ", 3), ("BHE", 2)], [("BHE", 2), ("BHN", 1), ("BHZ", 3)],
           [("BHE", 2), ("BHZ", 3), ("BHN", 1)], [("BHZ", 3), ("BHN", 1), ("BHE", 2)], [("BHZ", 3), ("BHE", 2), ("BHN", 1)]].map
          (arrangeTraces (τ := Nat)) = List.replicate 6 (.ok (1, 2, 3)) := by decide +kernel
example : arrangeTraces [("HNE", 2), ("N", 1), ("EHZ", 3)] = .ok (1, 2, 3) := by decide +kernel
/-- duplicate, missing, other suffix, lower case: errors -/
example : arrangeTraces [("BHN", 1), ("BHN", 2), ("BHZ", 3)] = .error .value := by decide +kernel
example : arrangeTraces [("BHN", 1), ("BHZ", 3)] = .error .unbound := by decide +kernel
example : arrangeTraces [("BH1", 1), ("BH2", 2), ("BHZ", 3)] = .error .value := by decide +kernel
example : arrangeTraces [("bhn", 1), ("bhe", 2), ("bhz", 3)] = .error .value := by decide +kernel
example : lastChar "BHN" = some 'N' ∧ lastChar "HNE" = some 'E' ∧ lastChar "Z" = some 'Z' := by decide +kernel
example : suffixCount 'N' [("BHN", 1), ("BHN", 2), ("BHZ", 3)] = 2 := by decide +kernel

/-- SAF row loop on concrete rows, columns V=2, N=0, E=1 -/
example : rowLoop 2 2 0 1 [((1 : Int), (2 : Int), (3 : Int)), (4, 5, 6)] 0 = .ok ([3, 6], [1, 4], [2, 5], 2) := rfl
/-- one row too many: IndexError; a row short: the count check -/
example : rowLoop 1 0 1 2 [((1 : Int), (2 : Int), (3 : Int)), (4, 5, 6)] 0 = .error .index := rfl
example : checkNpts 3 2 = .error .value ∧ checkNpts 2 2 = .ok () := by decide
example : safDegrees none (some 30) 1 2 = .ok 30 ∧ safDegrees none (some 30) 2 1 = .ok (30 + 90) ∧
    safDegrees none (some 30) 0 2 = .error .value ∧ safDegrees none none 0 2 = .ok 0 ∧
    safDegrees (some 15) (some 30) 0 2 = .ok 15 := by
  decide +kernel

/-- PEER routing hypotheses on concrete codes: 360 is closer to north than 090; 307 closer than 217 -/
example : (relAz 360).natAbs < (relAz 90).natAbs ∧ (relAz 307).natAbs < (relAz 217).natAbs ∧
    parseNat "090" = some 90 ∧ parseNat "360" = some 360 ∧ parseNat "5" = some 5 ∧ parseNat "UP" = none ∧ parseNat "HNE" = none := by
  decide +kernel
/-- the equal-distance case excluded by `hlt` (finding C07-b): 135 and 225 are equally far from north, and both `argmin`
and `argmax` pick the first file -/
example : (relAz 135).natAbs = (relAz 225).natAbs ∧ rdArgmin [135, 135] = some (0, 135) ∧ rdArgmax [135, 135] = some (0, 135) := by
  decide +kernel
example : peerVertical ["090", "UP", "360"] = .ok (1, true) ∧ peerVertical ["HNE", "HNZ", "HNN"] = .ok (1, false) ∧
    peerVertical ["090", "360", "180"] = .error .value := by decide +kernel

/-- broadcasting: scalar kwargs with per-recording degrees, and the converse -/
example : broadcastArgs [FArg.one "a", FArg.many ["b"], FArg.many ["c", "d", "e"]] (Arg.scalar (0 : Nat)) (Arg.many [10, 20, 30]) =
    [(FArg.one "a", 0, 10), (FArg.one "b", 0, 20), (FArg.many ["c", "d", "e"], 0, 30)] := rfl
example : broadcastArgs [FArg.one "a", FArg.one "b"] (Arg.many [(1 : Nat), 2]) (Arg.scalar (15 : Nat)) =
    [(FArg.one "a", 1, 15), (FArg.one "b", 2, 15)] := rfl

/-- dispatch: SAF wins over MiniShark when both accept the text; nothing accepts ⇒ error -/
example : readSingle [.error .value, .ok "saf", .ok "minishark", .error .value, .error .value, .error .value] = .ok "saf" := by decide +kernel
example : readSingle (ρ := Nat) [.error .value, .error .attr, .error .attr, .error .value, .error .value, .error .index]
    = .error .index := by decide +kernel

/-- `peer_routing` instantiated: files given as (090, UP, 360) with unequal lengths — 360 is north, 090 east, all trimmed to 2 -/
example : peerAssemble ([("090", [1, 2]), ("UP", [3, 4]), ("360", [5, 6, 7])].map (peerOf (σ := Nat) (1 / 50))) none =
    .ok { ns := ⟨[5, 6], 1 / 50⟩, ew := ⟨[1, 2], 1 / 50⟩, vt := ⟨[3, 4], 1 / 50⟩, deg := degNorm (((360 : Nat) % 360 : Int) : Rat) } :=
  peer_routing "UP" "360" "090" 360 90 (1 / 50) [3, 4] [5, 6, 7] [1, 2] none (Or.inl rfl) (by decide +kernel) (by decide +kernel)
    (by decide +kernel) (by decide +kernel) (by decide +kernel) (by decide +kernel) (by decide +kernel) _
    (List.perm_append_comm (l₁ := [_]) (l₂ := [_, _]))

example : peerAssemble ([("HNE", [1, 2]), ("HNZ", [3, 4]), ("HNN", [5, 6])].map (peerOf (σ := Nat) (1 / 100))) (some 33) =
    .ok { ns := ⟨[5, 6], 1 / 100⟩, ew := ⟨[1, 2], 1 / 100⟩, vt := ⟨[3, 4], 1 / 100⟩, deg := degNorm 33 } :=
  peer_routing_letters "HNZ" "HNN" "HNE" (1 / 100) [3, 4] [5, 6] [1, 2] (some 33) (Or.inl (by decide +kernel)) (by decide +kernel)
    (by decide +kernel) _ (List.perm_append_comm (l₁ := [_]) (l₂ := [_, _]))

/-- `obspy_read_perm` instantiated: traces stored as (Z, N, E), explicit orientation 400 -/
example : readObspy [("EHZ", ⟨[7, 8], 1 / 100⟩), ("EHN", ⟨[1, 2], 1 / 100⟩), ("EHE", ⟨[4, 5], 1 / 100⟩)] (some 400) =
    .ok { ns := ⟨[1, 2], 1 / 100⟩, ew := ⟨[4, 5], 1 / 100⟩, vt := ⟨[(7 : Nat), 8], 1 / 100⟩, deg := degNorm 400 } :=
  obspy_read_perm "EHN" "EHE" "EHZ" [1, 2] [4, 5] [7, 8] (1 / 100) (some 400) (by decide +kernel) (by decide +kernel) (by decide +kernel) rfl rfl _
    (List.perm_append_comm (l₁ := [_]) (l₂ := [_, _]))

example : degNorm 400 = 40 ∧ degNorm (-20) = 340 ∧ degNorm 360 = 0 := by decide +kernel

/-- `saf_columns_total` instantiated on the layout (N, V, E) with an explicit orientation (the NORTH_ROT rule is bypassed) -/
example : ∃ r, safAssemble (SafHeader.mk true (some 2) (some 100) (some 1) (some 0) (some 2) (some 30)) (some 15)
    [((1 : Int), (2 : Int), (3 : Int)), (4, 5, 6)] = .ok r ∧ r.deg = degNorm 15 :=
  saf_columns_total 1 0 2 100 (some 30) (some 15) [(1, 2, 3), (4, 5, 6)] 15 (by decide) (by decide) (by decide) (by decide) rfl

/-- MiniShark scaling on concrete numbers: 640 counts, gain 64, conversion 10 -/
example : msharkScale 64 10 640 = 1 := by decide +kernel

end HV.C07
