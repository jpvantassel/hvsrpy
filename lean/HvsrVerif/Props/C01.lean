import HvsrVerif.Props.C02
import HvsrVerif.Model.Process
import HvsrVerif.Proofs.DFTSum
import HvsrVerif.Proofs.ProcessLemmas
/-!
# C01 — HVSR curves equal the defined spectral ratio for every combination method

The first sentence of the property is the model's definition (`Model/Process.lean::hvsrRow`: taper → |DFT| padded to
`n` → combine → smooth → divide) and is tied to the code by the correspondence. This file holds "zero padding, never
truncation" and the law of every single stage of the chain: combination, projection, taper, |DFT|, smoothing,
percentile, ratio. `Props/C01Laws.lean` composes them.
-/
namespace HV.C01

/-! ### FFT length -/

/-- `nextpow2 n` terminates and returns the smallest `min·2^k` that is strictly larger than `n`. -/
theorem nextpow2_spec (n min : Nat) (hmin : 1 ≤ min) :
    n < nextpow2 n min ∧ ∃ k, nextpow2 n min = min * 2 ^ k ∧ (k = 0 ∨ min * 2 ^ (k - 1) ≤ n) := by
  obtain ⟨k, hk, hlt, hleast⟩ := Cli.nextpow2Loop_spec n min hmin
  rw [nextpow2_eq_cli n min hmin, Cli.nextpow2, hk]
  refine ⟨hlt, k, rfl, k.eq_zero_or_pos.imp_right fun h => not_lt.mp fun hc => ?_⟩
  exact absurd (hleast (k - 1) hc) (Nat.not_le.mpr (Nat.sub_lt h Nat.one_pos))

theorem prepareFft_n (user maxN : Nat) : prepareFft (.n user) maxN = .n (max user (nextpow2 maxN)) :=
  congrArg FftState.n (max_def_lt user _).symm

theorem lt_nextpow2 (n : Nat) : n < nextpow2 n := (nextpow2_spec n (2 ^ 15) Nat.one_le_two_pow).1

/-- **Zero padding, never truncation**: in all branches of `prepare_fft_settings` the FFT length stored is at
least the longest record. -/
theorem fftLen_ge (s : FftState) (maxN : Nat) : ∃ k, prepareFft s maxN = .n k ∧ maxN ≤ k := by
  cases s with
  | unset => exact ⟨_, rfl, (lt_nextpow2 maxN).le⟩
  | nNone => exact ⟨_, rfl, le_rfl⟩
  | n user => exact ⟨_, prepareFft_n user maxN, le_max_of_le_right (lt_nextpow2 maxN).le⟩

/-- A second call with the same records changes the stored state **iff** the state was `{"n": None}` …
(known finding C09-c: from that state the first call stores the record length, the second `nextpow2` of it). -/
theorem prepareFft_idem_iff (s : FftState) (maxN : Nat) :
    prepareFft (prepareFft s maxN) maxN = prepareFft s maxN ↔ s ≠ .nNone := by
  have key : ∀ k, prepareFft (.n k) maxN = .n k ↔ nextpow2 maxN ≤ k := fun k => by
    rw [prepareFft_n, FftState.n.injEq, max_eq_left_iff]
  cases s with
  | unset => exact iff_of_true ((key _).2 le_rfl) nofun
  | nNone => exact iff_of_false (fun e => ((key _).1 e).not_gt (lt_nextpow2 maxN)) fun e => e rfl
  | n user => rw [prepareFft_n]; exact iff_of_true ((key _).2 (le_max_right _ _)) nofun

/-! ### Combination of the horizontals -/

theorem closed_form_values (A B : ℝ) :
    Combine.arithmeticMean.apply A B = (A + B) / 2 ∧
    Combine.squaredAverage.apply A B = Real.sqrt ((A ^ 2 + B ^ 2) / 2) ∧
    Combine.geometricMean.apply A B = Real.sqrt (A * B) ∧
    Combine.totalHorizontalEnergy.apply A B = Real.sqrt (A ^ 2 + B ^ 2) ∧
    Combine.maximumHorizontalValue.apply A B = max A B := by
  simp only [Combine.apply, sqrt_real, ofNat_real, Nat.cast_ofNat, ← sq, true_and]
  rw [max_comm, max_def_lt]  -- closes by `rfl` across the two `Decidable` instances: see RealInst

theorem sqrt_sq_mul {c : ℝ} (hc : 0 ≤ c) (x : ℝ) : Real.sqrt (c ^ 2 * x) = c * Real.sqrt x := by
  rw [Real.sqrt_mul (sq_nonneg c), Real.sqrt_sq hc]

/-- every registered frequency-domain combination is positively homogeneous of degree one -/
theorem combine_homog (m : Combine) (c a b : ℝ) (hc : 0 ≤ c) : m.apply (c * a) (c * b) = c * m.apply a b := by
  obtain ⟨h1, h2, h3, h4, h5⟩ := closed_form_values a b
  obtain ⟨k1, k2, k3, k4, k5⟩ := closed_form_values (c * a) (c * b)
  cases m
  · rw [h1, k1, ← mul_add, mul_div_assoc]
  · rw [h2, k2, ← sqrt_sq_mul hc, mul_pow, mul_pow, ← mul_add, mul_div_assoc]
  · rw [h3, k3, ← sqrt_sq_mul hc, mul_mul_mul_comm, sq]
  · rw [h4, k4, ← sqrt_sq_mul hc, mul_pow, mul_pow, ← mul_add]
  · rw [h5, k5, mul_max_of_nonneg _ _ hc]

/-- the closed forms of the property for proportional spectra `|A|·s`, `|B|·s` (`s ≥ 0`) -/
theorem combine_closed_form (m : Combine) (A B s : ℝ) (hs : 0 ≤ s) :
    m.apply (A * s) (B * s) =
      (match m with
        | .arithmeticMean => (A + B) / 2
        | .squaredAverage => Real.sqrt ((A ^ 2 + B ^ 2) / 2)
        | .geometricMean => Real.sqrt (A * B)
        | .totalHorizontalEnergy => Real.sqrt (A ^ 2 + B ^ 2)
        | .maximumHorizontalValue => max A B) * s := by
  obtain ⟨h1, h2, h3, h4, h5⟩ := closed_form_values A B
  rw [mul_comm A, mul_comm B, combine_homog m s A B hs, mul_comm]
  cases m <;> simp only [h1, h2, h3, h4, h5]

/-- the time-domain projection is linear in the horizontals -/
theorem singleAz_linear (deg a b c d x y : ℝ) :
    singleAzimuth deg (x * a + y * c) (x * b + y * d) = x * singleAzimuth deg a b + y * singleAzimuth deg c d := by
  unfold singleAzimuth; ring

theorem zip_map_lift {β γ δ ε : Type} {f : β → β} {g : γ → γ} {k : β × γ → δ} {e : δ → ε} {k' : β × γ → ε}
    (h : ∀ x y, k' (f x, g y) = e (k (x, y))) (X : List β) (Y : List γ) :
    (List.zip (X.map f) (Y.map g)).map k' = ((List.zip X Y).map k).map e := by
  rw [List.zip_map, List.map_map, List.map_map]
  exact List.map_congr_left fun p _ => h p.1 p.2

theorem zip_map_diag {β γ δ ε : Type} {f : β → γ} {g : β → δ} {k : γ × δ → ε} {e : β → ε} (X : List β)
    (h : ∀ x ∈ X, k (f x, g x) = e x) : (List.zip (X.map f) (X.map g)).map k = X.map e := by
  rw [List.zip_map', List.map_map]
  exact List.map_congr_left h

theorem zip_map_combine_homog (m : Combine) (a : ℝ) (ha : 0 ≤ a) (X Y : List ℝ) :
    (List.zip (X.map (a * ·)) (Y.map (a * ·))).map (fun p => m.apply p.1 p.2)
      = ((List.zip X Y).map (fun p => m.apply p.1 p.2)).map (a * ·) :=
  zip_map_lift (fun x y => combine_homog m a x y ha) X Y

theorem zip_map_combine_closed (m : Combine) (A B : ℝ) (X : List ℝ) (hX : ∀ y ∈ X, 0 ≤ y) :
    (List.zip (X.map (A * ·)) (X.map (B * ·))).map (fun p => m.apply p.1 p.2) = X.map (m.apply A B * ·) :=
  zip_map_diag X fun x hx => by rw [mul_comm A, mul_comm B, combine_homog m x A B (hX x hx), mul_comm]

theorem singleAzSeries_scale (deg a : ℝ) (ns ew : List ℝ) :
    singleAzimuthSeries deg (ns.map (a * ·)) (ew.map (a * ·)) = (singleAzimuthSeries deg ns ew).map (a * ·) :=
  zip_map_lift (fun x y => by simp only [singleAzimuth]; ring) ns ew

theorem singleAzSeries_proportional (deg A B : ℝ) (s : List ℝ) :
    singleAzimuthSeries deg (s.map (A * ·)) (s.map (B * ·))
      = s.map ((A * Real.cos (radians deg) + B * Real.sin (radians deg)) * ·) :=
  zip_map_diag s fun x _ => by simp only [singleAzimuth, cos_real, sin_real]; ring

/-! ### Taper and |DFT| -/

theorem length_tukey (M : ℕ) (w : ℝ) : (tukey M w).length = M := by
  simp only [tukey, apply_ite List.length, List.length_replicate, hannA, List.length_map, List.length_range, ite_self]

theorem length_taper (w : ℝ) (x : List ℝ) : (taper w x).length = x.length := by
  rw [taper, List.length_map, List.length_zip, length_tukey, min_self]

theorem taper_homog (w c : ℝ) (x : List ℝ) : taper w (x.map (c * ·)) = (taper w x).map (c * ·) := by
  simp only [taper, List.length_map, List.zip_map_left, List.map_map]
  exact List.map_congr_left fun p _ => mul_assoc ..

theorem getD_map_mul (row : List ℝ) (c : ℝ) (i : ℕ) : (row.map (c * ·)).getD i 0 = c * row.getD i 0 := by
  simp only [List.getD_eq_getElem?_getD, List.getElem?_map]
  cases row[i]? <;> simp

theorem dft_homog (c : ℝ) (x : List ℝ) (n k : Nat) :
    dftRe (x.map (c * ·)) n k = c * dftRe x n k ∧ dftIm (x.map (c * ·)) n k = c * dftIm x n k := by
  simp only [dftRe_eq_sum, dftIm_eq_sum, List.length_map, getD_map_mul, mul_neg, Finset.mul_sum, mul_assoc, and_self]

theorem ampSpec_homog (c : ℝ) (x : List ℝ) (n : Nat) :
    ampSpec (x.map (c * ·)) n = (ampSpec x n).map (|c| * ·) := by
  simp only [ampSpec, rfft, List.map_map]
  refine List.map_congr_left fun k _ => ?_
  simp only [Function.comp, ← List.map_take, (dft_homog c (x.take n) n k).1, (dft_homog c (x.take n) n k).2, sqrt_real]
  rw [← Real.sqrt_sq_eq_abs, ← Real.sqrt_mul (sq_nonneg c)]
  congr 1; ring

theorem ampSpec_nonneg (x : List ℝ) (n : ℕ) : ∀ y ∈ ampSpec x n, 0 ≤ y := by
  intro y hy
  obtain ⟨p, _, rfl⟩ := List.mem_map.mp hy
  exact Real.sqrt_nonneg _

/-! ### Smoothing -/

theorem smooth_homog (weight : ℝ → ℝ → Option ℝ) (freqs x : List ℝ) (fc c : ℝ) :
    kernelSmoothRow weight freqs (x.map (c * ·)) fc = c * kernelSmoothRow weight freqs x fc := by
  -- linearity at `y := x`, `b := 0`: the combination `c·x + 0·x` is `x.map (c * ·)`
  have h := C02.smooth_linear weight freqs x x fc c 0 rfl
  rw [List.zipWith_self] at h
  simpa only [zero_mul, add_zero] using h

theorem sgAt_homog (m : ℕ) (row : List ℝ) (c : ℝ) (idx : Int) :
    sgAt m (row.map (c * ·)) idx = c * sgAt m row idx := by
  simp only [C02.sgAt_eq, List.length_map, getD_map_mul, ← mul_add, mul_left_comm _ c, List.sum_map_mul_left, mul_ite,
    mul_zero, mul_div_assoc]

/-- a map on spectrum rows that commutes with scaling and returns one value per centre frequency -/
structure RowMap (S : List ℝ → List ℝ) (len : ℕ) : Prop where
  homog : ∀ (c : ℝ) (row : List ℝ), S (row.map (c * ·)) = (S row).map (c * ·)
  length : ∀ row, (S row).length = len

theorem RowMap.of_pointwise {β : Type} (ps : List β) (F : β → List ℝ → ℝ)
    (h : ∀ p c row, F p (row.map (c * ·)) = c * F p row) : RowMap (fun row => ps.map (F · row)) ps.length :=
  ⟨fun c row => by rw [List.map_map]; exact List.map_congr_left fun p _ => h p c row, fun _ => List.length_map ..⟩

theorem smoothByName_shape (op : String) (bw : ℝ) :
    (∃ w : ℝ → ℝ → Option ℝ, ∀ freqs rows fcs, smoothByName op bw freqs rows fcs = .ok (kernelSmooth w freqs rows fcs)) ∨
    (∀ freqs rows fcs, smoothByName op bw freqs rows fcs = savitzkyGolay bw freqs rows fcs) ∨
    (∀ freqs rows fcs, smoothByName op bw freqs rows fcs = .error "unknown-operator") := by
  unfold smoothByName
  split
  · exact Or.inl ⟨koWeight bw, fun _ _ _ => rfl⟩
  · exact Or.inl ⟨parzenWeight bw, fun _ _ _ => rfl⟩
  · exact Or.inl ⟨linRectWeight bw, fun _ _ _ => rfl⟩
  · exact Or.inl ⟨logRectWeight bw, fun _ _ _ => rfl⟩
  · exact Or.inl ⟨linTriWeight bw, fun _ _ _ => rfl⟩
  · exact Or.inl ⟨logTriWeight bw, fun _ _ _ => rfl⟩
  · exact Or.inr (Or.inl fun _ _ _ => rfl)
  · exact Or.inr (Or.inr fun _ _ _ => rfl)

theorem smoothByName_rowMap (op : String) (bw : ℝ) (freqs fcs : List ℝ) :
    (∃ e, ∀ rows, smoothByName op bw freqs rows fcs = .error e) ∨
    (∃ S : List ℝ → List ℝ, (∀ rows, smoothByName op bw freqs rows fcs = .ok (rows.map S)) ∧ RowMap S fcs.length) := by
  rcases smoothByName_shape op bw with ⟨w, hw⟩ | hsg | herr
  · exact Or.inr ⟨_, fun rows => hw .., .of_pointwise fcs _ fun fc c row => smooth_homog w freqs row fc c⟩
  · simp only [hsg, savitzkyGolay]
    -- none of the three refusals looks at the rows
    split
    · exact Or.inl ⟨_, fun _ => rfl⟩
    split
    · exact Or.inl ⟨_, fun _ => rfl⟩
    split
    · exact Or.inl ⟨_, fun _ => rfl⟩
    refine Or.inr ⟨_, fun rows => rfl, ?_⟩
    rw [← List.length_map (as := fcs)]
    exact .of_pointwise _ _ fun idx c row => sgAt_homog _ row c idx
  · exact Or.inl ⟨_, fun _ => herr ..⟩

/-- Every registered smoothing operator, for fixed bandwidth / grid / centre frequencies, either refuses whatever the
rows are, or applies one and the same homogeneous map `S` to every row. -/
theorem smoothByName_rowwise (op : String) (bw : ℝ) (freqs fcs : List ℝ) :
    (∃ e, ∀ rows, smoothByName op bw freqs rows fcs = .error e) ∨
    (∃ S : List ℝ → List ℝ, (∀ rows, smoothByName op bw freqs rows fcs = .ok (rows.map S)) ∧
      ∀ (c : ℝ) (row : List ℝ), S (row.map (c * ·)) = (S row).map (c * ·)) :=
  (smoothByName_rowMap op bw freqs fcs).imp_right fun ⟨S, hS, h⟩ => ⟨S, hS, h.homog⟩

/-- every registered smoothing operator is homogeneous: scaling all rows by `c` scales the result by `c`
(and an operator that refuses its arguments refuses them either way) -/
theorem smoothByName_homog (op : String) (bw c : ℝ) (freqs : List ℝ) (rows : List (List ℝ)) (fcs : List ℝ) :
    smoothByName op bw freqs (rows.map (fun r => r.map (c * ·))) fcs =
      (smoothByName op bw freqs rows fcs).map (fun m => m.map (fun r => r.map (c * ·))) := by
  rcases smoothByName_rowwise op bw freqs fcs with ⟨e, he⟩ | ⟨S, hS, hlin⟩
  · rw [he, he]; rfl
  · rw [hS, hS]; simp only [Except.map, List.map_map, Function.comp_def, hlin]

/-! ### Percentile over the azimuths -/

theorem insertSorted_scale (c : ℝ) (hc : 0 < c) (x : ℝ) (l : List ℝ) :
    insertSorted (c * x) (l.map (c * ·)) = (insertSorted x l).map (c * ·) := by
  induction l with
  | nil => rfl
  | cons y ys ih =>
    simp only [List.map_cons, insertSorted, mul_lt_mul_iff_right₀ hc, ih]
    split <;> rfl

theorem sortA_scale (c : ℝ) (hc : 0 < c) (l : List ℝ) : sortA (l.map (c * ·)) = (sortA l).map (c * ·) := by
  induction l with
  | nil => rfl
  | cons x xs ih => rw [List.map_cons, sortA, List.foldr_cons, ← sortA, ih, insertSorted_scale c hc]; rfl

theorem percentile_scale (c : ℝ) (hc : 0 < c) (vals : List ℝ) (q : ℝ) :
    percentile (vals.map (c * ·)) q = c * percentile vals q := by
  unfold percentile
  simp only [sortA_scale c hc, List.length_map, ofNat_real, Nat.cast_zero]
  rw [getD_map_mul, getD_map_mul]
  ring

theorem columnsOf_scale (c : ℝ) {β : Type} (F : β → List ℝ) (l : List β) (ncol : ℕ) :
    columnsOf (l.map fun x => (F x).map (c * ·)) ncol = (columnsOf (l.map F) ncol).map (·.map (c * ·)) := by
  simp only [columnsOf, List.map_map]
  refine List.map_congr_left fun j _ => ?_
  simp only [Function.comp, List.filterMap_map, List.getElem?_map]
  rw [List.map_filterMap]

theorem columnsOf_outer {β : Type} (K : β → ℝ) (l : List β) (Y : List ℝ) :
    columnsOf (l.map fun x => Y.map (K x * ·)) Y.length = Y.map fun y => (l.map K).map (y * ·) := by
  refine List.ext_getElem (by rw [columnsOf, List.length_map, List.length_map, List.length_range]) fun j _ h2 => ?_
  rw [List.length_map] at h2
  simp only [columnsOf, List.getElem_map, List.getElem_range, List.filterMap_map, Function.comp_def, List.getElem?_map,
    List.getElem?_eq_getElem h2, Option.map_some, List.map_map, List.filterMap_eq_map', mul_comm]

/-! ### The ratio -/

/-- **Scale laws at the level of one smoothed ratio**: with `h` scaled by `a ≥ 0` and `v` by `b > 0` the ratio of the
smoothed spectra scales by `a/b`; in particular it is unchanged when `a = b`. -/
theorem ratio_scale (sh sv a b : ℝ) (hb : b ≠ 0) (hv : sv ≠ 0) : (a * sh) / (b * sv) = (a / b) * (sh / sv) :=
  mul_div_mul_comm a sh b sv

/-- one entry of `ratioRow`, over `ℝ` -/
noncomputable def ratio1 (p : ℝ × ℝ) : Except String ℝ :=
  if p.2 = 0 then .error "div0" else if p.1 / p.2 < 0 then .error "negative" else .ok (p.1 / p.2)

theorem ratioRow_eq (h v : List ℝ) : ratioRow h v = (List.zip h v).mapM ratio1 := by
  simp only [ratioRow, ofNat_real, Nat.cast_zero, eqA_decide, decide_eq_true_eq]
  rfl  -- instances: see RealInst

theorem ratio1_scale (a b : ℝ) (ha : 0 < a) (hb : 0 < b) (p : ℝ × ℝ) :
    ratio1 (a * p.1, b * p.2) = (ratio1 p).map (a / b * ·) := by
  -- positive factors change neither of the two tests; `Except.map` then goes into the branches
  have hneg : a / b * (p.1 / p.2) < 0 ↔ p.1 / p.2 < 0 :=
    ⟨fun h => neg_of_mul_neg_right h (div_pos ha hb).le, mul_neg_of_pos_of_neg (div_pos ha hb)⟩
  simp only [ratio1, mul_div_mul_comm, mul_eq_zero, hb.ne', false_or, hneg, apply_ite (Except.map fun q => a / b * q)]
  rfl

theorem ratioRow_scale_ab (a b : ℝ) (ha : 0 < a) (hb : 0 < b) (h v : List ℝ) :
    ratioRow (h.map (a * ·)) (v.map (b * ·)) = (ratioRow h v).map (fun row => row.map (a / b * ·)) := by
  rw [ratioRow_eq, ratioRow_eq, List.zip_map]
  exact mapM_map_comm ratio1 _ _ (ratio1_scale a b ha hb) _

theorem except_map_one_mul (x : Except String (List ℝ)) : x.map (fun row => row.map (1 * ·)) = x := by
  cases x <;> simp [Except.map]

theorem ratioRow_scale (a : ℝ) (ha : 0 < a) (h v : List ℝ) :
    ratioRow (h.map (a * ·)) (v.map (a * ·)) = ratioRow h v := by
  rw [ratioRow_scale_ab a a ha ha, div_self ha.ne', except_map_one_mul]

theorem ratioRow_same (K c : ℝ) (s : List ℝ) (row : List ℝ)
    (h : ratioRow (s.map (K * ·)) (s.map (c * ·)) = .ok row) : ∀ q ∈ row, q = K / c := by
  intro q hq
  rw [ratioRow_eq, List.zip_map'] at h
  have hmem : Except.ok q ∈ (row.map Except.ok : List (Except String ℝ)) := List.mem_map_of_mem hq
  rw [← mapM_eq_ok _ _ _ h, List.map_map] at hmem
  obtain ⟨y, -, hy⟩ := List.mem_map.mp hmem
  simp only [Function.comp, ratio1] at hy
  -- `split_ifs` closes the two refusals; the third branch gives `q` and `c * y ≠ 0`
  split_ifs at hy with hy0
  cases hy
  exact mul_div_mul_right K c (right_ne_zero_of_mul hy0)

/-! ### Non-vacuity -/
example : nextpow2 300 = 32768 := by decide +kernel
example : nextpow2 32768 = 65536 := by decide +kernel
example : prepareFft .nNone 300 = .n 300 ∧ prepareFft (.n 300) 300 = .n 32768 := by decide +kernel
example : prepareFft .unset 50001 = .n 65536 := by decide +kernel

end HV.C01
