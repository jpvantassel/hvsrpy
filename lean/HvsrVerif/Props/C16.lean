import HvsrVerif.Proofs.ListLemmas
import Mathlib.Tactic.NormNum
/-!
# C16 — SESAME reliability and clarity verdicts match the 2004 guideline

The model (`Model/Sesame.lean`) mirrors `hvsrpy/sesame.py`; the statements below are written from the guideline text.
-/
namespace HV.C16

/-- Table of the guideline (threshold values for σ_f and σ_A), band edges included:
`f0 < 0.2 : (0.25, 3.0)`, `[0.2,0.5) : (0.20, 2.5)`, `[0.5,1) : (0.15, 2.0)`,
`[1,2) : (0.10, 1.78)`, `≥ 2 : (0.05, 1.58)`. -/
theorem threshold_table (f0 : ℝ) :
    thresholdBand f0 =
      if f0 < 0.2 then (0.25, 3.0) else if f0 < 0.5 then (0.20, 2.5)
      else if f0 < 1 then (0.15, 2.0) else if f0 < 2 then (0.10, 1.78) else (0.05, 1.58) := by
  norm_num only [thresholdBand, sesameBands, sesameLastBand, bandLookup, lit_real]

/-- the band edges themselves belong to the upper band (`<` is strict) -/
theorem threshold_edges :
    thresholdBand (0.2 : ℝ) = (0.20, 2.5) ∧ thresholdBand (0.5 : ℝ) = (0.15, 2.0) ∧
    thresholdBand (1 : ℝ) = (0.10, 1.78) ∧ thresholdBand (2 : ℝ) = (0.05, 1.58) := by
  norm_num [threshold_table]

/-- `σ_A(f) = exp(log A + σ)/A` is `exp σ` (the lognormal standard-deviation factor) for `A > 0`: how to read the
`sigmaA` of `RelSpec.iii` and `ClaSpec.vi` -/
theorem sigmaA_eq_exp (m s : ℝ) (hm : 0 < m) : sigmaA m s = Real.exp s := by
  rw [sigmaA, exp_real, log_real, Real.exp_add, Real.exp_log hm, mul_div_cancel_left₀ _ hm.ne']

theorem sesame_lits :
    (lit sesameConsts.relI : ℝ) = 10 ∧ (lit sesameConsts.relII : ℝ) = 200 ∧
    (lit sesameConsts.relIIIlo : ℝ) = 0.5 ∧ (lit sesameConsts.relIIIhi : ℝ) = 2 ∧
    (lit sesameConsts.relIIIsplit : ℝ) = 0.5 ∧ (lit sesameConsts.relIIIa : ℝ) = 2 ∧
    (lit sesameConsts.relIIIb : ℝ) = 3 ∧ (lit sesameConsts.claIdiv : ℝ) = 4 ∧
    (lit sesameConsts.claAmpDiv : ℝ) = 2 ∧ (lit sesameConsts.claIImul : ℝ) = 4 ∧
    (lit sesameConsts.claIII : ℝ) = 2 ∧ (lit sesameConsts.claIVlo : ℝ) = 0.95 ∧
    (lit sesameConsts.claIVhi : ℝ) = 1.05 := by
  norm_num [sesameConsts]

theorem forall_mem_filterMap_ite {β γ : Type} (l : List β) (P : β → Prop) [DecidablePred P]
    (g : β → γ) (Q : γ → Prop) :
    (∀ y ∈ l.filterMap (fun x => if P x then some (g x) else none), Q y) ↔ ∀ x ∈ l, P x → Q (g x) := by
  rw [List.forall_mem_filterMap]
  refine forall₂_congr fun x _ => ?_
  by_cases hp : P x <;> simp [hp]

theorem ite_decide_lt (c : Prop) [Decidable c] (x a b : ℝ) :
    (if c then decide (x < a) else decide (x < b)) = true ↔ x < if c then a else b := by
  split <;> exact decide_eq_true_iff

/-- Reliability criteria of the guideline evaluated at the peak `f0` of the (trimmed) mean curve. -/
structure RelSpec (lw nw f0 : ℝ) (freq mc sd : List ℝ) (c : List Bool) : Prop where
  len : c.length = 3
  /-- i) f0 > 10 / lw -/
  i : c[0]? = some true ↔ f0 > 10 / lw
  /-- ii) nc = lw · nw · f0 > 200 -/
  ii : c[1]? = some true ↔ lw * nw * f0 > 200
  /-- iii) σ_A(f) < 2 for 0.5 f0 < f < 2 f0 when f0 > 0.5 Hz, < 3 otherwise -/
  iii : c[2]? = some true ↔
    ∀ fms ∈ List.zip freq (List.zip mc sd), 0.5 * f0 < fms.1 ∧ fms.1 < 2 * f0 →
      sigmaA fms.2.1 fms.2.2 < (if f0 > 0.5 then 2 else 3)

theorem reliability_eq_spec (lw nw : ℝ) (freq mc sd : List ℝ) (r : Option ℝ × Option ℝ) (c : List Bool)
    (h : reliability lw nw freq mc sd r = .ok c) :
    ∃ freq' mc' sd' pi f0, sesameTrim freq mc sd r = some (freq', mc', sd') ∧
      peakIndex mc' = some pi ∧ freq'[pi]? = some f0 ∧ RelSpec lw nw f0 freq' mc' sd' c := by
  unfold reliability at h
  split at h
  · cases h
  rename_i freq' mc' sd' htrim
  split at h
  · cases h
  rename_i pi hpi
  split at h
  · cases h
  rename_i f0 hf0
  dsimp only at h
  split at h
  · cases h
  rename_i smax hmax
  cases h
  -- the verdict list is `[c1, c2, c3]`: entry `k` is `some true` iff `c_k = true`
  refine ⟨freq', mc', sd', pi, f0, htrim, hpi, hf0, rfl, ?_, ?_, ?_⟩ <;> refine Option.some_inj.trans ?_
  · simp only [decide_eq_true_eq, sesame_lits, gt_iff_lt]
  · simp only [decide_eq_true_eq, sesame_lits, gt_iff_lt]
  · -- `smax` is the maximum of σ_A over the band, so `smax < t` bounds σ_A at every frequency of the band
    rw [ite_decide_lt, maxL_lt_iff hmax, forall_mem_filterMap_ite]
    simp only [sesame_lits]

/-- Clarity criteria of the guideline at the peak `(f0, a0)` of the (trimmed) mean curve; `fp`, `fm`
are the peak frequencies of the curves `A·exp(±σ)`; `(ε, θ)` come from the threshold table. -/
structure ClaSpec (f0 a0 s0 fnStd fp fm : ℝ) (freq mc : List ℝ) (c : List Bool) : Prop where
  len : c.length = 6
  /-- i) ∃ f⁻ ∈ (f0/4, f0) with A(f⁻) < A0/2 -/
  i : c[0]? = some true ↔ ∃ x ∈ List.zip freq mc, x.1 < f0 ∧ f0 / 4 < x.1 ∧ x.2 < a0 / 2
  /-- ii) ∃ f⁺ ∈ (f0, 4 f0) with A(f⁺) < A0/2 -/
  ii : c[1]? = some true ↔ ∃ x ∈ List.zip freq mc, f0 < x.1 ∧ x.1 < 4 * f0 ∧ x.2 < a0 / 2
  /-- iii) A0 > 2 -/
  iii : c[2]? = some true ↔ a0 > 2
  /-- iv) the peaks of the ±σ curves lie within ±5 % of f0 -/
  iv : c[3]? = some true ↔ (f0 * 0.95 < fp ∧ fp < f0 * 1.05) ∧ (f0 * 0.95 < fm ∧ fm < f0 * 1.05)
  /-- v) σ_f < ε(f0) · f0 -/
  v : c[4]? = some true ↔ fnStd < (thresholdBand f0).1 * f0
  /-- vi) σ_A(f0) < θ(f0) -/
  vi : c[5]? = some true ↔ sigmaA a0 s0 < (thresholdBand f0).2

theorem clarity_eq_spec (freq mc sd : List ℝ) (fnStd : ℝ) (r : Option ℝ × Option ℝ) (c : List Bool)
    (h : clarity freq mc sd fnStd r = .ok c) :
    ∃ freq' mc' sd' pi f0 a0 s0 iu il fp fm, sesameTrim freq mc sd r = some (freq', mc', sd') ∧
      peakIndex mc' = some pi ∧ freq'[pi]? = some f0 ∧ mc'[pi]? = some a0 ∧ sd'[pi]? = some s0 ∧
      peakIndex ((List.zip mc' sd').map (fun ms => Real.exp (Real.log ms.1 + ms.2))) = some iu ∧
      peakIndex ((List.zip mc' sd').map (fun ms => Real.exp (Real.log ms.1 - ms.2))) = some il ∧
      freq'[iu]? = some fp ∧ freq'[il]? = some fm ∧
      ClaSpec f0 a0 s0 fnStd fp fm freq' mc' c := by
  unfold clarity at h
  split at h
  · cases h
  rename_i freq' mc' sd' htrim
  split at h
  · cases h
  rename_i pi hpi
  split at h
  swap
  · cases h
  rename_i f0 a0 s0 hf0 ha0 hs0
  dsimp only at h
  split at h
  swap
  · cases h
  rename_i iu il hiu hil
  split at h
  swap
  · cases h
  rename_i fp fm hfp hfm
  cases h
  -- entry `k` of `[c1, …, c6]` is `some true` iff `c_k = true`; each `c_k` is a `decide`/`any` of its criterion
  refine ⟨freq', mc', sd', pi, f0, a0, s0, iu, il, fp, fm, htrim, hpi, hf0, ha0, hs0, hiu, hil, hfp, hfm,
    rfl, ?_, ?_, ?_, ?_, ?_, ?_⟩ <;> refine Option.some_inj.trans ?_
  · simp only [List.any_eq_true, Bool.and_eq_true, decide_eq_true_eq, sesame_lits, and_assoc]
  · simp only [List.any_eq_true, Bool.and_eq_true, decide_eq_true_eq, sesame_lits, and_assoc]
  · simp only [decide_eq_true_eq, sesame_lits, gt_iff_lt]
  · simp only [Bool.and_eq_true, decide_eq_true_eq, sesame_lits]
  · exact decide_eq_true_iff
  · exact decide_eq_true_iff

theorem sesameTrim_subset {freq mc sd fr m s : List ℝ} {r : Option ℝ × Option ℝ}
    (h : sesameTrim freq mc sd r = some (fr, m, s)) : fr ⊆ freq := by
  intro x hx
  unfold sesameTrim at h
  split at h
  · cases h; exact hx
  split at h
  · cases h; exact List.mem_of_mem_take (List.mem_of_mem_drop hx)
  · cases h

/-- Criterion ii is monotone: more or longer windows never turn a pass into a fail. -/
theorem critII_mono (lw nw lw' nw' : ℝ) (freq mc sd : List ℝ) (r : Option ℝ × Option ℝ) (c c' : List Bool)
    (hlw : 0 ≤ lw) (hnw : 0 ≤ nw) (h1 : lw ≤ lw') (h2 : nw ≤ nw') (hf : ∀ f ∈ freq, 0 ≤ f)
    (h : reliability lw nw freq mc sd r = .ok c) (h' : reliability lw' nw' freq mc sd r = .ok c') :
    c[1]? = some true → c'[1]? = some true := by
  obtain ⟨fr, m, s, pi, f0, ht, hp, hf0, sp⟩ := reliability_eq_spec _ _ _ _ _ _ _ h
  obtain ⟨fr', m', s', pi', f0', ht', hp', hf0', sp'⟩ := reliability_eq_spec _ _ _ _ _ _ _ h'
  -- both calls trim alike, so they find the same peak
  cases ht.symm.trans ht'
  cases hp.symm.trans hp'
  cases hf0.symm.trans hf0'
  rw [sp.ii, sp'.ii]
  intro hgt
  have hf0nn : 0 ≤ f0 := hf _ (sesameTrim_subset ht (List.mem_of_getElem? hf0))
  exact hgt.trans_le (mul_le_mul_of_nonneg_right (mul_le_mul h1 h2 hnw (hlw.trans h1)) hf0nn)

/-- Criterion v is monotone: a smaller standard deviation of fn never turns a pass into a fail. -/
theorem critV_mono (freq mc sd : List ℝ) (σ σ' : ℝ) (r : Option ℝ × Option ℝ) (c c' : List Bool)
    (hσ : σ' ≤ σ)
    (h : clarity freq mc sd σ r = .ok c) (h' : clarity freq mc sd σ' r = .ok c') :
    c[4]? = some true → c'[4]? = some true := by
  obtain ⟨fr, m, s, pi, f0, a0, s0, iu, il, fp, fm, ht, hp, hf0, _, _, _, _, _, _, sp⟩ := clarity_eq_spec _ _ _ _ _ _ h
  obtain ⟨fr', m', s', pi', f0', a0', s0', iu', il', fp', fm', ht', hp', hf0', _, _, _, _, _, _, sp'⟩ :=
    clarity_eq_spec _ _ _ _ _ _ h'
  cases ht.symm.trans ht'
  cases hp.symm.trans hp'
  cases hf0.symm.trans hf0'
  rw [sp.v, sp'.v]
  exact hσ.trans_lt

example : peakIndex ([1, 2, 5, 2, 1] : List Rat) = some 2 := by decide +kernel
example : peakIndex ([1, 3, 3, 3, 1] : List Rat) = some 2 := by decide +kernel
example : peakIndex ([1, 2, 3, 4, 5] : List Rat) = none := by decide +kernel
example : thresholdBand (1.5 : ℝ) = (0.10, 1.78) := by norm_num [threshold_table]

end HV.C16
