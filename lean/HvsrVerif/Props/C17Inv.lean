import HvsrVerif.Proofs.DFTInverse
import HvsrVerif.Model.PsdPre
import Mathlib.Algebra.BigOperators.Field
/-!
# C17 (continued) — removing a flat instrument response returns the analytically expected series

`removeFlatResponse_eq`: for any FFT length `n ≥ len(x)` and a flat response `S`, `rfft → zero the DC bin, divide by
S → irfft → crop` returns exactly `(x_j − (Σx)/n) / S`: the series with its (zero-padded) mean removed, divided by the
sensitivity (`flat_response_closed_form` is the case of an even length `n = 2h`; every length the code chooses by itself
is a power of two). `irfftAt_eq` writes `irfftAt` as the half-spectrum sum `halfSum` of the bins' terms; the proof is then
Fourier inversion from the half spectrum (`half_inversion_gen` of `Proofs/DFTInverse.lean`, from root-of-unity
orthogonality), applied to the spectrum with bin 0 removed and the others divided by `S`.
-/
namespace HV.C17

theorem rfft_zipMap_getD (x : List ℝ) (n k : ℕ) (hlen : x.length ≤ n) (hk : k ≤ n / 2) (g : ℕ × (ℝ × ℝ) → ℝ × ℝ)
    (d : ℝ × ℝ) :
    ((List.zip (List.range (rfft x n).length) (rfft x n)).map g).getD k d = g (k, (dftRe x n k, dftIm x n k)) := by
  simp [List.getD_eq_getElem?_getD, rfft_getElem, rfft_length, Nat.lt_succ_of_le hk, List.take_of_length_le hlen]

/-- the number of interior bins that `irfftAt` sums is that of `halfSum`, for an even and for an odd length -/
theorem interior_count (n : ℕ) : (if n % 2 = 0 then n / 2 - 1 else n / 2) = (n + 1) / 2 - 1 := by
  obtain ⟨h, rfl | rfl⟩ := Nat.even_or_odd' n
  · rw [if_pos (Nat.mul_mod_right 2 h), Nat.mul_div_cancel_left h two_pos, two_mul_succ_div_two]
  · rw [if_neg (two_mul_succ_mod_two h), two_mul_succ_div_two, two_mul_add_two_div_two, Nat.add_sub_cancel]

/-- `irfftAt` does not read the imaginary parts of the 0 Hz and (even `n`) Nyquist bins; the right-hand side may, because
the sine vanishes there. -/
theorem irfftAt_eq (Y : List (ℝ × ℝ)) (n j : ℕ) (hn : n ≠ 0) :
    irfftAt Y n j = halfSum n (fun k => (Y.getD k (0, 0)).1 * Real.cos (2 * Real.pi * (k * j : ℕ) / n)
      - (Y.getD k (0, 0)).2 * Real.sin (2 * Real.pi * (k * j : ℕ) / n)) / n := by
  unfold irfftAt halfSum
  -- the model over `ℝ` with plain angles and `halfSum`'s count of interior bins; on the right bin `0` has angle `0` and the
  -- sum over `1 ≤ k < (n+1)/2` becomes one over `i = k − 1` like the model's
  simp only [sumA_real, list_range_map_sum, ofNat_real, cos_real, sin_real, Nat.cast_zero, Nat.cast_ofNat,
    cos_dftAngle n j, sin_dftAngle n j, Nat.pos_of_ne_zero hn, and_true, interior_count]
  simp only [Nat.zero_mul, Nat.cast_zero, mul_zero, zero_div, Real.cos_zero, Real.sin_zero, mul_one, sub_zero,
    Finset.sum_Ico_eq_sum_range, Finset.mul_sum]
  -- what is left to compare: the interior terms (`i + 1` against `1 + i`) and the Nyquist term (no sine on the left)
  congr 2
  · congr 1
    exact Finset.sum_congr rfl fun i _ => by rw [Nat.add_comm 1 i]
  · split_ifs with h2
    · rw [sin_nyquist n j h2, mul_zero, sub_zero]
    · rfl

/-- **Flat instrument response**, any FFT length `n ≥ len(x)`, sample by sample. -/
theorem removeFlatResponse_getElem? (x : List ℝ) (n : ℕ) (hlen : x.length ≤ n) (S : ℝ) (j : ℕ) (hj : j < x.length) :
    (removeFlatResponse x n S)[j]? = some ((x[j] - x.sum / (n : ℝ)) / S) := by
  have hjn : j < n := hj.trans_le hlen
  have hn : n ≠ 0 := (Nat.zero_lt_of_lt hjn).ne'
  unfold removeFlatResponse
  simp only [List.getElem?_map, List.getElem?_range hj, Option.map_some, Option.some.injEq]
  -- bin `k ≥ 1` contributes `T_k / S`, bin `0` nothing (`?bins`): `halfSum T`, which is `n·x_j`, less `T_0 = Σx`, over `S`
  rw [irfftAt_eq _ n j hn, halfSum_congr n _ (fun k => if k = 0 then 0 else T x n k j / S) ?bins,
    halfSum_erase_zero hn (fun k => T x n k j / S), halfSum_div, half_inversion_gen x n hlen j hjn, T_zero, dftRe_zero,
    padR_of_lt hj]
  case bins =>
    intro k hk
    rw [ofNat_real, Nat.cast_zero, rfft_zipMap_getD x n k hlen hk]
    split_ifs
    · rw [zero_mul, zero_mul, sub_zero]
    · rw [T]; ring
  rw [← sub_div, div_div, mul_comm S, ← div_div, sub_div, mul_div_cancel_left₀ _ (Nat.cast_ne_zero.mpr hn)]

/-- **Flat instrument response**, any FFT length `n ≥ len(x)`. Removing a flat response `S` returns the series with the
mean (over the padded length) removed, divided by the sensitivity. (For `S = 0` both sides are the zero series: `x / 0 = 0`
in Lean, and the code zeroes every bin where the response vanishes.) -/
theorem removeFlatResponse_eq (x : List ℝ) (n : ℕ) (hlen : x.length ≤ n) (S : ℝ) :
    removeFlatResponse x n S = flatResponseClosed x n S := by
  refine List.ext_getElem? fun j => ?_
  by_cases hj : j < x.length
  · rw [removeFlatResponse_getElem? x n hlen S j hj, flatResponseClosed, List.getElem?_map, List.getElem?_eq_getElem hj,
      Option.map_some, sumA_real, ofNat_real]
  · simp [removeFlatResponse, flatResponseClosed, hj]

/-- **Flat instrument response.** The series with the mean (over the padded length) removed, divided by the sensitivity:
the even-length case of `removeFlatResponse_eq`. -/
theorem flat_response_closed_form (x : List ℝ) (h : ℕ) (hh : 1 ≤ h) (hlen : x.length ≤ 2 * h) (S : ℝ) (hS : S ≠ 0) :
    removeFlatResponse x (2 * h) S = flatResponseClosed x (2 * h) S :=
  removeFlatResponse_eq x (2 * h) hlen S

end HV.C17
