import HvsrVerif.Proofs.Rec
/-!
# C18 — Recordings persist exactly; copies are independent; trim keeps the right samples

Model: `Model/Rec.lean` (recording state machine `step`/`run`, `toDict/fromDict`, location model
`Heap`) and `Model/Split.lean` (`trimIdx`, `trim`). Theorems over `ℝ`; the Butterworth filter,
the taper and scipy's detrend are an ARBITRARY length-preserving `f` inside `Op.xform`.
`MetaWF` (in `Inv`) and `sdist` (in `IsNearest`) are defined in Proofs/Rec, next to their lemmas.
-/
namespace HV.C18
open HV.Split HV.RecM

/-! ## persistence -/

/-- what every recording built by the constructor satisfies, and every operation preserves -/
structure Inv (r : Rec ℝ) : Prop where
  len_ew : r.ns.length = r.ew.length
  len_vt : r.ns.length = r.vt.length
  deg_lo : 0 ≤ r.deg
  deg_hi : r.deg < 360
  md_wf : MetaWF r.md

/-- operations whose payload is well-formed: transformers keep the number of samples,
assigned arrays have one common length -/
def ValidOp : Op ℝ → Prop
  | .xform _ _ f => ∀ l, (f l).length = l.length
  | .setSamples a b c => a.length = b.length ∧ a.length = c.length
  | _ => True

/-- stated with `HV.degNorm`, which `RecM.degNorm` is by `rfl` (`RecM.degNorm_eq`): here and in `step_inv` the facts of
Proofs/Degrees are used for it as they are -/
theorem mkRec_of_len {ns ew vt : List ℝ} (hl : ns.length = ew.length ∧ ns.length = vt.length) (dt deg : ℝ)
    (md : Dict ℝ) :
    mkRec ns ew vt dt deg md = .ok { ns := ns, ew := ew, vt := vt, dt := dt, deg := HV.degNorm deg,
                                     md := dictMerge (defaultMeta (HV.degNorm deg)) md } :=
  if_neg (by rw [not_or, not_not, not_not]; exact hl)

theorem mkRec_inv {ns ew vt : List ℝ} {dt deg : ℝ} {md : Dict ℝ} {r : Rec ℝ}
    (h : mkRec ns ew vt dt deg md = .ok r) : Inv r := by
  unfold mkRec at h
  split at h
  · cases h
  · rename_i hl
    rw [not_or, not_not, not_not] at hl
    cases h
    exact ⟨hl.1, hl.2, (degNorm_range deg).1, (degNorm_range deg).2, metaWF_dictMerge _ _ (metaWF_default _ _ _)⟩

/-- in hvsrpy's terms: `from_seismic_recording_3c` of a valid recording is an exact copy -/
theorem mkRec_self (r : Rec ℝ) (h : Inv r) : mkRec r.ns r.ew r.vt r.dt r.deg r.md = .ok r := by
  rw [mkRec_of_len ⟨h.len_ew, h.len_vt⟩, degNorm_id r.deg h.deg_lo h.deg_hi, defaultMeta,
    dictMerge_default_id _ _ _ r.md h.md_wf]

theorem saveLoad_eq_mkRec (r : Rec ℝ) : saveLoad r = mkRec r.ns r.ew r.vt r.dt r.deg r.md := by
  simp only [saveLoad, toDict, fromDict, dictGet_cons, String.reduceEq, ↓reduceIte, Option.bind,
    asNum, asNumList, asObj, mapM_asNum]

theorem load_save_fixed (r : Rec ℝ) (h : Inv r) : saveLoad r = .ok r := by
  rw [saveLoad_eq_mkRec]; exact mkRec_self r h

theorem trim_length_eq {β : Type} {xs ys a b : List β} {dt t0 t1 : ℝ} (hl : xs.length = ys.length)
    (ha : trim xs dt t0 t1 = .ok a) (hb : trim ys dt t0 t1 = .ok b) : a.length = b.length := by
  rw [(trim_eq_ok ha).2, (trim_eq_ok hb).2, length_slice, length_slice, hl]

theorem Inv.withMd {r : Rec ℝ} (h : Inv r) {m : Dict ℝ} (hm : MetaWF m) : Inv { r with md := m } :=
  ⟨h.len_ew, h.len_vt, h.deg_lo, h.deg_hi, hm⟩

theorem step_inv (op : Op ℝ) (r : Rec ℝ) (h : Inv r) (hv : ValidOp op) : Inv (step op r).1 := by
  cases op with
  | trim t0 t1 =>
    have hr1 := h.withMd (metaWF_dictSet r.md "trim" (.arr [.num t0, .num t1]) h.md_wf)
    simp only [step]
    split
    · rename_i a b c ha hb hc
      exact ⟨trim_length_eq h.len_ew ha hb, trim_length_eq h.len_vt ha hc, h.deg_lo, h.deg_hi, hr1.md_wf⟩
    all_goals exact hr1
  | xform key val f =>
    exact ⟨(hv _).trans (h.len_ew.trans (hv _).symm), (hv _).trans (h.len_vt.trans (hv _).symm), h.deg_lo,
      h.deg_hi, metaWF_dictSet _ _ _ h.md_wf⟩
  | setSamples a b c => exact ⟨hv.1, hv.2, h.deg_lo, h.deg_hi, h.md_wf⟩
  | orient d =>
    refine ⟨?_, ?_, (degNorm_range d).1, (degNorm_range d).2, metaWF_dictSet _ _ _ h.md_wf⟩
    · simp only [step, List.length_map]
    · simp only [step, List.length_map, List.length_zip, ← h.len_ew, ← h.len_vt, Nat.min_self]
  | split L j =>
    have hr1 := h.withMd (metaWF_dictSet r.md "split" (.num L) h.md_wf)
    simp only [step]
    split
    · exact hr1
    · split
      · exact hr1
      · split
        · exact hr1
        · split
          · exact mkRec_inv ‹_›
          · exact hr1
  | copy => simp only [step, copyRec, mkRec_self r h]; exact h
  | saveLoad => simp only [step, load_save_fixed r h]; exact h

theorem run_inv (ops : List (Op ℝ)) (r : Rec ℝ) (h : Inv r) (hv : ∀ op ∈ ops, ValidOp op) :
    Inv (run ops r) :=
  List.foldlRecOn ops _ h fun r hr op hop => step_inv op r hr (hv op hop)

/-- **orientation stays normalised** over all histories: `0 ≤ degrees_from_north < 360` -/
theorem orientation_normalised (ns ew vt : List ℝ) (dt deg : ℝ) (md : Dict ℝ) (r0 : Rec ℝ)
    (h0 : mkRec ns ew vt dt deg md = .ok r0) (ops : List (Op ℝ)) (hv : ∀ op ∈ ops, ValidOp op) :
    0 ≤ (run ops r0).deg ∧ (run ops r0).deg < 360 :=
  let h := run_inv ops r0 (mkRec_inv h0) hv
  ⟨h.deg_lo, h.deg_hi⟩

/-- **load ∘ save = id after any history**: starting from any constructed recording and after any
sequence of trim / detrend / taper / filter (arbitrary `f`) / re-orientation / split / copy /
save-load / sample assignment, loading the saved recording restores every sample, the time step,
the orientation and the meta dict -/
theorem load_save_id (ns ew vt : List ℝ) (dt deg : ℝ) (md : Dict ℝ) (r0 : Rec ℝ)
    (h0 : mkRec ns ew vt dt deg md = .ok r0) (ops : List (Op ℝ)) (hv : ∀ op ∈ ops, ValidOp op) :
    ∃ r', saveLoad (run ops r0) = .ok r' ∧ r'.ns = (run ops r0).ns ∧ r'.ew = (run ops r0).ew ∧
      r'.vt = (run ops r0).vt ∧ r'.dt = (run ops r0).dt ∧ r'.deg = (run ops r0).deg ∧
      r'.md = (run ops r0).md :=
  ⟨run ops r0, load_save_fixed _ (run_inv ops r0 (mkRec_inv h0) hv), rfl, rfl, rfl, rfl, rfl, rfl⟩

/-- the copy constructor returns an equal recording after any history -/
theorem copy_id (r0 : Rec ℝ) (h0 : Inv r0) (ops : List (Op ℝ)) (hv : ∀ op ∈ ops, ValidOp op) :
    copyRec (run ops r0) = .ok (run ops r0) :=
  mkRec_self _ (run_inv ops r0 h0 hv)

/-- why the normalisation matters: a recording whose orientation is 400 (not normalised, as
`orient_sensor_to(400)` left it before the repair) is NOT restored — it comes back as 40 -/
theorem load_save_needs_normalised (r : Rec ℝ) (hd : r.deg = 400) (hl : r.ns.length = r.ew.length ∧ r.ns.length = r.vt.length) :
    ∃ r', saveLoad r = .ok r' ∧ r'.deg = 40 ∧ r'.deg ≠ r.deg := by
  have hf : ⌊(400 : ℝ) / 360⌋ = 1 := Int.floor_eq_iff.2 (by norm_num)
  have h40 : HV.degNorm (400 : ℝ) = 40 := by rw [degNorm_real, hf]; norm_num
  rw [saveLoad_eq_mkRec, mkRec_of_len hl, hd, h40]
  exact ⟨_, rfl, rfl, by norm_num⟩

/-! ## trim -/

/-- `i` is the first sample of an `n`-sample record nearest to time `t` -/
structure IsNearest (dt t : ℝ) (n i : Nat) : Prop where
  lt : i < n
  le : ∀ j, j < n → sdist dt t i ≤ sdist dt t j
  first : ∀ j, j < i → sdist dt t i < sdist dt t j

theorem argminAbs_nearest (dt t : ℝ) (n : Nat) (hn : 0 < n) : IsNearest dt t n (argminAbs dt t n) := by
  induction n, hn using Nat.le_induction with
  | base =>
    have e : argminAbs dt t 1 = 0 := by rw [argminAbs_succ]; split <;> rfl
    rw [e]
    exact ⟨Nat.zero_lt_one, fun j hj => by rw [Nat.lt_one_iff.1 hj], fun j hj => absurd hj (Nat.not_lt_zero j)⟩
  | succ m _ ih =>
    rw [argminAbs_succ]
    split
    next hlt =>   -- sample `m` is strictly nearer than the best of the first `m`
      refine ⟨Nat.lt_succ_self _, fun j hj => ?_, fun j hj => lt_of_lt_of_le hlt (ih.le j hj)⟩
      rcases Nat.lt_succ_iff_lt_or_eq.1 hj with h | rfl
      · exact hlt.le.trans (ih.le j h)
      · exact le_rfl
    next hlt =>   -- it is not: the old best stays, and is at least as near as `m`
      refine ⟨Nat.lt_succ_of_lt ih.lt, fun j hj => ?_, ih.first⟩
      rcases Nat.lt_succ_iff_lt_or_eq.1 hj with h | rfl
      · exact ih.le j h
      · exact not_lt.1 hlt

/-- **trim keeps the nearest samples**: the kept samples are exactly the record's samples
`s … e` where `s` is the sample nearest to `start` and `e` the sample nearest to `end`
(first one on an exact tie, as `np.argmin`) -/
theorem trim_nearest {β : Type} (xs ys : List β) (dt t0 t1 : ℝ) (h : trim xs dt t0 t1 = .ok ys) :
    ∃ s e, IsNearest dt t0 xs.length s ∧ IsNearest dt t1 xs.length e ∧
      ys = slice xs s (e + 1) ∧ ∀ i, ys[i]? = if s + i ≤ e then xs[s + i]? else none := by
  obtain ⟨hn, rfl⟩ := trim_eq_ok h
  refine ⟨_, _, argminAbs_nearest dt t0 _ hn, argminAbs_nearest dt t1 _ hn, rfl, fun i => ?_⟩
  rw [getElem?_slice]
  exact if_congr (Nat.lt_sub_iff_add_lt'.trans Nat.lt_succ_iff) rfl rfl

/-- with a positive time step the kept range is not empty: `s ≤ e` -/
theorem trim_ordered (dt t0 t1 : ℝ) (n s e : Nat) (hdt : 0 < dt) (ht : t0 < t1)
    (hs : IsNearest dt t0 n s) (he : IsNearest dt t1 n e) : s ≤ e := by
  by_contra hlt
  rw [not_le] at hlt
  -- `s` is strictly nearer to `t0` than the earlier sample `e`, and `e` at least as near to `t1` as `s`;
  -- as squares the two add up to `2 (s - e) dt (t1 - t0) < 0`
  have h1 := hs.first e hlt
  have h2 := he.le s hs.lt
  rw [sdist, sdist, ← sq_lt_sq] at h1
  rw [sdist, sdist, ← sq_le_sq] at h2
  have hp := mul_pos (mul_pos (sub_pos.2 (Nat.cast_lt (α := ℝ).2 hlt)) hdt) (sub_pos.2 ht)
  exact lt_irrefl (0 : ℝ) (by linear_combination h1 + h2 + 2 * hp)

/-- **trim refuses** a start before the record, a start not before the end, and an end after
the last sample -/
theorem trim_refuses {β : Type} (xs : List β) (dt t0 t1 : ℝ)
    (h : t0 < 0 ∨ t1 ≤ t0 ∨ ((xs.length - 1 : Nat) : ℝ) * dt < t1) :
    trim xs dt t0 t1 = .error "index" := by
  rw [trim_real, if_pos (Or.inr h)]

/-- and accepts every other interval of a non-empty record -/
theorem trim_accepts {β : Type} (xs : List β) (dt t0 t1 : ℝ) (hn : 0 < xs.length)
    (h0 : 0 ≤ t0) (h1 : t0 < t1) (h2 : t1 ≤ ((xs.length - 1 : Nat) : ℝ) * dt) :
    ∃ ys, trim xs dt t0 t1 = .ok ys := by
  rw [trim_real, if_neg (by simp only [not_or, not_lt, not_le]; exact ⟨Nat.ne_of_gt hn, h0, h1, h2⟩)]
  exact ⟨_, rfl⟩

/-! ## copies share no sample storage -/

variable {α : Type}

theorem sharesMemory_of_base_ne (a b : Arr) (h : a.base ≠ b.base) : sharesMemory a b = false := by
  rw [sharesMemory, beq_false_of_ne h]; rfl

/-- an array `src` of the heap `h` and an array `c` of a later heap `h'` are independent: they share no memory,
and a write through either is invisible through the other -/
def Indep (h h' : Heap α) (src c : Arr) : Prop :=
  sharesMemory src c = false ∧ (∀ i v, (h'.write c i v).read src = h.read src) ∧
    (∀ i v, (h'.write src i v).read c = h'.read c)

theorem indep_of_fresh {h h' : Heap α} (e : h.cells <+: h'.cells) {src c : Arr} (hs : h.valid src)
    (hc : h.cells.length ≤ c.base) : Indep h h' src c := by
  have hne : src.base ≠ c.base := Nat.ne_of_lt (Nat.lt_of_lt_of_le hs hc)
  exact ⟨sharesMemory_of_base_ne _ _ hne,
    fun i v => by rw [Heap.read_write_other _ _ _ _ _ hne, Heap.read_of_prefix e hs],
    fun i v => Heap.read_write_other _ _ _ _ _ hne.symm⟩

theorem tsCopy_grows (h : Heap α) (a : Arr) :
    (tsCopy h a).1.cells = h.cells ++ [h.read a] ∧ (tsCopy h a).2.base = h.cells.length := ⟨rfl, rfl⟩

theorem tsCopy_prefix (h : Heap α) (a : Arr) : h.cells <+: (tsCopy h a).1.cells := List.prefix_append _ _

/-- **copy constructor of `TimeSeries`**: the copy is in a buffer no existing array lives in;
writes through the copy are invisible to every existing array (the source included), writes
through the source are invisible to the copy -/
theorem copies_fresh_ts (h : Heap α) (a : Arr) (src : Arr) (hv : h.valid src) :
    sharesMemory src (tsCopy h a).2 = false ∧
    (∀ i v, ((tsCopy h a).1.write (tsCopy h a).2 i v).read src = h.read src) ∧
    (∀ i v, ((tsCopy h a).1.write src i v).read (tsCopy h a).2 = h.read a) := by
  obtain ⟨h1, h2, h3⟩ := indep_of_fresh (c := (tsCopy h a).2) (tsCopy_prefix h a) hv (Nat.le_refl _)
  exact ⟨h1, h2, fun i v => by rw [h3]; exact Heap.read_alloc_new h _⟩

def arrs3 (r : Rec3Ref) : List Arr := [r.ns, r.ew, r.vt]

/-- `SeismicRecording3C(ns, ew, vt)`, three `tsCopy`s in a row: three buffers are appended and the stored components
are the arrays at their locations -/
theorem ctor3_grows (h : Heap α) (r : Rec3Ref) :
    h.cells <+: (ctor3 h r).1.cells ∧ (ctor3 h r).1.cells.length = h.cells.length + 3 ∧
      (ctor3 h r).2.ns.base = h.cells.length ∧ (ctor3 h r).2.ew.base = h.cells.length + 1 ∧
      (ctor3 h r).2.vt.base = h.cells.length + 2 := by
  refine ⟨(tsCopy_prefix h r.ns).trans ((tsCopy_prefix _ r.ew).trans (tsCopy_prefix _ r.vt)), ?_⟩
  simp only [ctor3, tsCopy, Heap.alloc, List.length_append, List.length_singleton, and_self]

/-- so each stored component is new to `h` and valid in the constructor's heap -/
theorem ctor3_fresh (h : Heap α) (r : Rec3Ref) :
    ∀ c ∈ arrs3 (ctor3 h r).2, h.cells.length ≤ c.base ∧ (ctor3 h r).1.valid c := by
  obtain ⟨_, hl, b1, b2, b3⟩ := ctor3_grows h r
  simp only [arrs3, Heap.valid, List.mem_cons, List.not_mem_nil, or_false, forall_eq_or_imp, forall_eq, hl, b1, b2, b3]
  omega

theorem read_tsCopy {h h' : Heap α} (a : Arr) (e : (tsCopy h a).1.cells <+: h'.cells) :
    h'.read (tsCopy h a).2 = h.read a := by
  have hv : (tsCopy h a).1.valid (tsCopy h a).2 := by
    rw [Heap.valid, (tsCopy_grows h a).1, (tsCopy_grows h a).2, List.length_append]; exact Nat.lt_succ_self _
  rw [Heap.read_of_prefix e hv]
  exact Heap.read_alloc_new h _

theorem ctor3_read (h : Heap α) (r : Rec3Ref) (hv : ∀ c ∈ arrs3 r, h.valid c) :
    (ctor3 h r).1.read (ctor3 h r).2.ns = h.read r.ns ∧ (ctor3 h r).1.read (ctor3 h r).2.ew = h.read r.ew ∧
    (ctor3 h r).1.read (ctor3 h r).2.vt = h.read r.vt := by
  have hew : h.valid r.ew := hv _ (.tail _ (.head _))
  have hvt : h.valid r.vt := hv _ (.tail _ (.tail _ (.head _)))
  have e1 := tsCopy_prefix h r.ns
  have e2 := tsCopy_prefix (tsCopy h r.ns).1 r.ew
  have e3 : _ <+: (ctor3 h r).1.cells := tsCopy_prefix (tsCopy (tsCopy h r.ns).1 r.ew).1 r.vt
  exact ⟨read_tsCopy (h' := (ctor3 h r).1) r.ns (e2.trans e3),
    (read_tsCopy (h' := (ctor3 h r).1) r.ew e3).trans (Heap.read_of_prefix e1 hew),
    (read_tsCopy (h' := (ctor3 h r).1) r.vt List.prefix_rfl).trans (Heap.read_of_prefix (e1.trans e2) hvt)⟩

/-- the components of a `from_seismic_recording_3c` copy hold the source's samples -/
theorem copy3_read (h : Heap α) (r : Rec3Ref) (hv : ∀ c ∈ arrs3 r, h.valid c) :
    (copy3 h r).1.read (copy3 h r).2.ns = h.read r.ns ∧ (copy3 h r).1.read (copy3 h r).2.ew = h.read r.ew ∧
    (copy3 h r).1.read (copy3 h r).2.vt = h.read r.vt := by
  obtain ⟨a1, a2, a3⟩ := ctor3_read h r hv
  obtain ⟨b1, b2, b3⟩ := ctor3_read (ctor3 h r).1 (ctor3 h r).2 fun c hc => (ctor3_fresh h r c hc).2
  exact ⟨b1.trans a1, b2.trans a2, b3.trans a3⟩

/-- **components stored by the constructor**: each stored component lives in a new buffer; no existing
array (the arguments included) shares memory with them, and writes on either side are invisible to the
other -/
theorem copies_fresh_ctor (h : Heap α) (r : Rec3Ref) (src : Arr) (hs : h.valid src) :
    ∀ c ∈ arrs3 (ctor3 h r).2, Indep h (ctor3 h r).1 src c :=
  fun c hc => indep_of_fresh (ctor3_grows h r).1 hs (ctor3_fresh h r c hc).1

/-- **`from_seismic_recording_3c`** (component copies, then the constructor): the same freshness -/
theorem copies_fresh_copy (h : Heap α) (r : Rec3Ref) (src : Arr) (hs : h.valid src) :
    ∀ c ∈ arrs3 (copy3 h r).2, Indep h (copy3 h r).1 src c := by
  have e1 := (ctor3_grows h r).1
  have e2 := (ctor3_grows (ctor3 h r).1 (ctor3 h r).2).1
  exact fun c hc => indep_of_fresh (e1.trans e2) hs (Nat.le_trans e1.length_le (ctor3_fresh _ _ c hc).1)

/-- `TimeSeries.split`, `m` `tsCopy`s in a row: `m` buffers are appended and the windows are the arrays at their locations -/
theorem splitRefs_grows (a : Arr) (spw : Nat) (m : Nat) : ∀ (h : Heap α) (start : Nat),
    h.cells <+: (splitRefs h a spw m start).1.cells ∧
    (splitRefs h a spw m start).1.cells.length = h.cells.length + m ∧
    (splitRefs h a spw m start).2.map Arr.base = List.range' h.cells.length m := by
  induction m with
  | zero => exact fun h start => ⟨List.prefix_rfl, rfl, rfl⟩
  | succ m ih =>
    intro h start
    obtain ⟨i1, i2, i3⟩ := ih (tsCopy h (Heap.view a start (start + spw))).1 (start + spw - 1)
    have hl : (tsCopy h (Heap.view a start (start + spw))).1.cells.length = h.cells.length + 1 := by
      rw [(tsCopy_grows _ _).1, List.length_append, List.length_singleton]
    refine ⟨(tsCopy_prefix _ _).trans i1, ?_, ?_⟩
    · rw [splitRefs, i2, hl, Nat.add_right_comm, Nat.add_assoc]
    · rw [splitRefs, List.map_cons, i3, List.range'_succ, hl]; rfl

/-- **split windows**: every window lives in its own new buffer — it shares memory neither with
the source (or any other existing array) nor with another window; writes on either side are
invisible to the other -/
theorem copies_fresh_split (h : Heap α) (a : Arr) (spw m start : Nat) (src : Arr) (hs : h.valid src) :
    ((splitRefs h a spw m start).2.map Arr.base).Nodup ∧
    ∀ w ∈ (splitRefs h a spw m start).2, Indep h (splitRefs h a spw m start).1 src w := by
  obtain ⟨s1, _, s2⟩ := splitRefs_grows a spw m h start
  refine ⟨s2 ▸ List.nodup_range', fun w hw => indep_of_fresh s1 hs ?_⟩
  have hb : w.base ∈ List.range' h.cells.length m := s2 ▸ List.mem_map_of_mem hw
  exact (List.mem_range'_1.1 hb).1

/-- **copies are independent** (the four copy paths of the property in one statement): for any
existing array `src` — in particular the source's own component arrays — the `TimeSeries` copy
constructor, the components stored by the `SeismicRecording3C` constructor, `from_seismic_recording_3c`
and every `split` window share no memory with `src`; a write through the copy leaves `src` as it was,
and a write through `src` leaves the copy as it was -/
theorem copies_fresh (h : Heap α) (r : Rec3Ref) (hv : h.valid r.ns ∧ h.valid r.ew ∧ h.valid r.vt)
    (src : Arr) (hs : h.valid src) (spw m start : Nat) :
    (sharesMemory src (tsCopy h src).2 = false ∧
      (∀ i v, ((tsCopy h src).1.write (tsCopy h src).2 i v).read src = h.read src) ∧
      (∀ i v, ((tsCopy h src).1.write src i v).read (tsCopy h src).2 = h.read src)) ∧
    (∀ c ∈ arrs3 (ctor3 h r).2, sharesMemory src c = false ∧
      (∀ i v, ((ctor3 h r).1.write c i v).read src = h.read src) ∧
      (∀ i v, ((ctor3 h r).1.write src i v).read c = (ctor3 h r).1.read c)) ∧
    (∀ c ∈ arrs3 (copy3 h r).2, sharesMemory src c = false ∧
      (∀ i v, ((copy3 h r).1.write c i v).read src = h.read src) ∧
      (∀ i v, ((copy3 h r).1.write src i v).read c = (copy3 h r).1.read c)) ∧
    (∀ w ∈ (splitRefs h src spw m start).2, sharesMemory src w = false ∧
      (∀ i v, ((splitRefs h src spw m start).1.write w i v).read src = h.read src) ∧
      (∀ i v, ((splitRefs h src spw m start).1.write src i v).read w = (splitRefs h src spw m start).1.read w)) :=
  -- the last three components are stated with `Indep`, which unfolds to the conjunctions written out here
  ⟨copies_fresh_ts h src src hs, copies_fresh_ctor h r src hs, copies_fresh_copy h r src hs,
   (copies_fresh_split h src spw m start src hs).2⟩

/-- positive control of the location model: `trim` keeps a VIEW — the trimmed array shares
memory with the array it was cut from (so the model does not call everything fresh) -/
theorem trim_view_shares (a : Arr) (s e : Nat) (hse : s ≤ e) (he : e < a.len) :
    sharesMemory a (trimRef a s e) = true := by
  have hs : s < a.len := Nat.lt_of_le_of_lt hse he
  -- the view is `[off + s, off + e + 1)`: it is not empty and starts inside `[off, off + len)`
  have h1 : a.off < a.off + s + (e + 1 - s) := by omega
  have h2 : a.off + s < a.off + a.len := by omega
  simp only [sharesMemory, trimRef, Heap.view, Nat.min_eq_left hs.le, Nat.min_eq_left he, beq_self_eq_true, h1, h2,
    decide_true, Bool.and_self]

/-! ## non-vacuity -/

/-- a constructed recording exists (orientation 400 is normalised to 40 by the constructor) -/
example : ∃ r0, mkRec [1, 2, 3] [4, 5, 6] [7, 8, 9] (1/2 : ℝ) 400 [("site", .str "A")] = .ok r0 ∧ Inv r0 := by
  have h : mkRec [1, 2, 3] [4, 5, 6] [7, 8, 9] (1/2 : ℝ) 400 [("site", .str "A")] = .ok _ := if_neg (by decide)
  exact ⟨_, h, mkRec_inv h⟩

/-- valid histories exist: reverse is a length-preserving transformer -/
example : ∀ op ∈ [Op.trim (0 : ℝ) 1, Op.xform "butterworth_filter" .null List.reverse, Op.orient 400,
    Op.split 1 (some 0), Op.copy, Op.saveLoad], ValidOp op := by
  intro op h
  simp only [List.mem_cons, List.not_mem_nil, or_false] at h
  rcases h with rfl | rfl | rfl | rfl | rfl | rfl <;> simp [ValidOp]

/-- the refusals are reachable and so is an accepted trim (`dt = 1`, four samples) -/
example : trim [10, 20, 30, 40] (1 : ℝ) (-1) 2 = Except.error "index" :=
  trim_refuses _ _ _ _ (Or.inl (by norm_num))
example : trim [10, 20, 30, 40] (1 : ℝ) 1 4 = Except.error "index" :=
  trim_refuses _ _ _ _ (Or.inr (Or.inr (by norm_num)))
example : ∃ ys, trim [10, 20, 30, 40] (1 : ℝ) 1 3 = Except.ok ys :=
  trim_accepts _ _ _ _ (by simp) (by norm_num) (by norm_num) (by norm_num)
/-- the same model run on integers: samples 1…2 are kept for `[0.9·, 2.2·]`-like times (dt = 10) -/
example : trim [10, 20, 30, 40] (10 : Int) 9 22 = Except.ok [20, 30] := by decide +kernel
/-- exact tie (midpoint): the first of the two nearest samples is chosen -/
example : trim [10, 20, 30, 40] (10 : Int) 5 25 = Except.ok [10, 20, 30] := by decide +kernel
example : sharesMemory (tsCopy (⟨[[1, 2, 3]]⟩ : Heap Nat) ⟨0, 0, 3⟩).2 ⟨0, 0, 3⟩ = false := by decide
example : sharesMemory (trimRef ⟨0, 0, 3⟩ 1 2) ⟨0, 0, 3⟩ = true := by decide

end HV.C18
