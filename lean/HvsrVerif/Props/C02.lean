import HvsrVerif.Proofs.ListLemmas
import HvsrVerif.Model.Smoothing
import Mathlib.Tactic.Positivity
/-!
# C02 — Smoothing operators are the published normalised kernels

Model: `Model/Smoothing.lean`. All statements over `ℝ`.
-/
namespace HV.C02
open Classical

/-- contributing `(weight, sample)` pairs at centre frequency `fc` -/
def contrib (weight : ℝ → ℝ → Option ℝ) (freqs row : List ℝ) (fc : ℝ) : List (ℝ × ℝ) :=
  (List.zip freqs row).filterMap (fun p => (weight p.1 fc).map (fun w => (w, p.2)))

theorem guard_real : (guard : ℝ) = 1e-6 := by norm_num [guard, smoothConsts]

/-- **Normalised weighted average.** At a centre frequency not below the `1e-6` guard the smoothed value is
`Σ wᵢ xᵢ / Σ wᵢ` over the contributing samples when `Σ wᵢ > 0`, and zero otherwise (in particular where no
sample falls inside the window); below the guard it is zero. -/
theorem smooth_is_normalised_average (weight : ℝ → ℝ → Option ℝ) (freqs row : List ℝ) (fc : ℝ) :
    kernelSmoothRow weight freqs row fc =
      if fc < 1e-6 then 0
      else if 0 < ((contrib weight freqs row fc).map (·.1)).sum
        then ((contrib weight freqs row fc).map (fun p => p.1 * p.2)).sum / ((contrib weight freqs row fc).map (·.1)).sum
        else 0 := by
  simp only [kernelSmoothRow, contrib, guard_real, sumA_real, ofNat_real, Nat.cast_zero]
  congr -- the two sides differ in the `Decidable` instances only (the trap described in `Proofs/RealInst`)

/-- a window that reaches samples but gives every one of them the weight 0 (a triangular window whose only samples
sit exactly on its two edges) yields 0 as well -- never 0/0 (the boundary of seed C02-W, exercised by the exact
stream of `harness/c02.py`) -/
theorem zero_where_no_weight (weight : ℝ → ℝ → Option ℝ) (freqs row : List ℝ) (fc : ℝ)
    (h : ∀ p ∈ contrib weight freqs row fc, p.1 = 0) : kernelSmoothRow weight freqs row fc = 0 := by
  rw [smooth_is_normalised_average, List.sum_eq_zero (List.forall_mem_map.mpr h)]
  simp

theorem zero_where_no_sample (weight : ℝ → ℝ → Option ℝ) (freqs row : List ℝ) (fc : ℝ)
    (h : contrib weight freqs row fc = []) : kernelSmoothRow weight freqs row fc = 0 :=
  zero_where_no_weight weight freqs row fc (by simp [h])

theorem sum_mul_const (ps : List (ℝ × ℝ)) (c : ℝ) (h : ∀ p ∈ ps, p.2 = c) :
    (ps.map (fun p => p.1 * p.2)).sum = (ps.map (·.1)).sum * c := by
  rw [← List.sum_map_mul_right]
  exact congrArg _ (List.map_congr_left fun p hp => by rw [h p hp])

/-- **A constant spectrum is reproduced exactly** wherever the window is not empty. -/
theorem smooth_const (weight : ℝ → ℝ → Option ℝ) (freqs row : List ℝ) (fc c : ℝ) (hfc : ¬ fc < 1e-6)
    (hrow : ∀ p ∈ contrib weight freqs row fc, p.2 = c)
    (hpos : 0 < ((contrib weight freqs row fc).map (·.1)).sum) :
    kernelSmoothRow weight freqs row fc = c := by
  rw [smooth_is_normalised_average, if_neg hfc, if_pos hpos, sum_mul_const _ c hrow, mul_div_cancel_left₀ _ hpos.ne']

/-- **Bounds.** With non-negative weights the output lies between the smallest and the largest contributing sample. -/
theorem smooth_between (weight : ℝ → ℝ → Option ℝ) (freqs row : List ℝ) (fc lo hi : ℝ) (hfc : ¬ fc < 1e-6)
    (hw : ∀ p ∈ contrib weight freqs row fc, 0 ≤ p.1)
    (hlo : ∀ p ∈ contrib weight freqs row fc, lo ≤ p.2) (hhi : ∀ p ∈ contrib weight freqs row fc, p.2 ≤ hi)
    (hpos : 0 < ((contrib weight freqs row fc).map (·.1)).sum) :
    lo ≤ kernelSmoothRow weight freqs row fc ∧ kernelSmoothRow weight freqs row fc ≤ hi := by
  rw [smooth_is_normalised_average, if_neg hfc, if_pos hpos, le_div_iff₀ hpos, div_le_iff₀ hpos,
    ← List.sum_map_mul_left, ← List.sum_map_mul_left]
  exact ⟨List.sum_le_sum fun p hp => by rw [mul_comm]; exact mul_le_mul_of_nonneg_left (hlo p hp) (hw p hp),
    List.sum_le_sum fun p hp => by rw [mul_comm hi]; exact mul_le_mul_of_nonneg_left (hhi p hp) (hw p hp)⟩

/-- The weights see only the frequencies: smoothing a row `ps.map g` is one weighted average over a list `T` of
`(weight, label)` pairs that is the same for every `g`. -/
theorem smooth_map {β : Type} (weight : ℝ → ℝ → Option ℝ) (freqs : List ℝ) (ps : List β) (fc : ℝ) :
    ∃ T : List (ℝ × β), ∀ g : β → ℝ, kernelSmoothRow weight freqs (ps.map g) fc =
      if fc < 1e-6 then 0
      else if 0 < (T.map (·.1)).sum then (T.map fun t => t.1 * g t.2).sum / (T.map (·.1)).sum else 0 :=
  ⟨(List.zip freqs ps).filterMap fun q => (weight q.1 fc).map fun w => (w, q.2), fun g => by
    simp only [smooth_is_normalised_average, contrib, List.zip_map_right, List.filterMap_map, List.map_filterMap,
      Function.comp_def, Option.map_map, Prod.map_fst, Prod.map_snd, id]⟩

/-- **Linearity.** Weights and branch conditions do not depend on the spectrum. -/
theorem smooth_linear (weight : ℝ → ℝ → Option ℝ) (freqs x y : List ℝ) (fc a b : ℝ) (hlen : x.length = y.length) :
    kernelSmoothRow weight freqs (List.zipWith (fun u v => a * u + b * v) x y) fc =
      a * kernelSmoothRow weight freqs x fc + b * kernelSmoothRow weight freqs y fc := by
  -- the two rows and their combination are three images of the one list of pairs `zip x y`
  obtain ⟨ps, rfl, rfl⟩ : ∃ ps : List (ℝ × ℝ), ps.map Prod.fst = x ∧ ps.map Prod.snd = y :=
    ⟨x.zip y, List.map_fst_zip hlen.le, List.map_snd_zip hlen.ge⟩
  obtain ⟨T, hT⟩ := smooth_map weight freqs ps fc
  rw [List.zipWith_map, List.zipWith_self, hT, hT, hT]
  simp only [mul_add, mul_left_comm _ a, mul_left_comm _ b, List.sum_map_add, List.sum_map_mul_left, add_div,
    mul_div_assoc, mul_ite, mul_zero, ite_add_ite, add_zero]

/-- **Row independence.** Row `i` of the result is the smoothing of row `i` alone. -/
theorem smooth_rows_independent (weight : ℝ → ℝ → Option ℝ) (freqs : List ℝ) (rows : List (List ℝ)) (fcs : List ℝ) (i : Nat) :
    (kernelSmooth weight freqs rows fcs)[i]? = (rows[i]?).map (fun r => fcs.map (kernelSmoothRow weight freqs r)) ∧
    ∀ r, kernelSmooth weight freqs [r] fcs = [fcs.map (kernelSmoothRow weight freqs r)] :=
  ⟨List.getElem?_map, fun _ => rfl⟩

theorem sinc4_eq (w : ℝ) : sinc4 w = (Real.sin w / w) ^ 4 := by
  unfold sinc4; simp only [sin_real]; ring

theorem sinc4_nonneg (w : ℝ) : 0 ≤ sinc4 w := by rw [sinc4_eq]; positivity

/-- the shape shared by the Konno–Ohmachi and Parzen weights inside their windows -/
theorem sincWindow_cases {c : Prop} {u w : ℝ} (h : (if c then some (n# 1) else some (sinc4 u)) = some w) :
    w = 1 ∨ w = (Real.sin u / u) ^ 4 := by
  split at h <;> cases h
  · exact Or.inl (by simp)
  · exact Or.inr (sinc4_eq u)

/-- Konno–Ohmachi: inside the window the weight is `(sin u / u)^4`, `u = b·log₁₀(f/fc)` (1 within `1e-6` of `fc`). -/
theorem ko_is_sinc4 (bw f fc w : ℝ) (h : koWeight bw f fc = some w) :
    w = 1 ∨ w = (Real.sin (bw * (Real.log (f / fc) / Real.log 10)) / (bw * (Real.log (f / fc) / Real.log 10))) ^ 4 := by
  simp only [koWeight, Option.ite_none_left_eq_some] at h
  simpa only [log10A, log_real, ofNat_real, Nat.cast_ofNat] using sincWindow_cases h.2

/-- Parzen: `(sin u / u)^4`, `u = a (f − fc)/b`, `a = 280π/302`. -/
theorem parzen_is_sinc4 (bw f fc w : ℝ) (h : parzenWeight bw f fc = some w) :
    w = 1 ∨ w = (Real.sin (Real.pi * 280 / (2 * 151) * (f - fc) / bw) / (Real.pi * 280 / (2 * 151) * (f - fc) / bw)) ^ 4 := by
  simp only [parzenWeight, Option.ite_none_left_eq_some] at h
  simpa only [parzenA, smoothConsts, lit_real, pi_real, ofNat_real, pow_zero, div_one, Nat.cast_ofNat] using
    sincWindow_cases h.2

theorem ko_nonneg (bw f fc w : ℝ) (h : koWeight bw f fc = some w) : 0 ≤ w := by
  rcases ko_is_sinc4 bw f fc w h with h | h <;> rw [h] <;> positivity

theorem parzen_nonneg (bw f fc w : ℝ) (h : parzenWeight bw f fc = some w) : 0 ≤ w := by
  rcases parzen_is_sinc4 bw f fc w h with h | h <;> rw [h] <;> positivity

/-- rectangular windows: the indicator of `|f − fc| ≤ b/2` (samples below `1e-6` excluded) -/
theorem linRect_is_indicator (bw f fc : ℝ) :
    linRectWeight bw f fc = if f < 1e-6 ∨ bw / 2 < |f - fc| then none else some 1 := by
  simp only [linRectWeight, guard_real, ofNat_real, absA_real, Nat.cast_ofNat, Nat.cast_one]

/-- log-rectangular window: the indicator of `pow10A (−b/2) ≤ f/fc ≤ pow10A (b/2)` (over `ℝ`, `pow10A a` is
`exp (a · log 10)`, that is `10^a`) -/
theorem logRect_is_indicator (bw f fc : ℝ) :
    logRectWeight bw f fc =
      if f < 1e-6 ∨ f / fc < pow10A (-(bw / 2)) ∨ pow10A (bw / 2) < f / fc then none else some 1 := by
  simp only [logRectWeight, guard_real, ofNat_real, Nat.cast_ofNat, Nat.cast_one]

/-- triangular window: the hat `1 − |f − fc|·2/b` on `|f − fc| ≤ b/2` -/
theorem linTri_is_hat (bw f fc : ℝ) :
    linTriWeight bw f fc = if f < 1e-6 ∨ bw / 2 < |f - fc| then none else some (1 - |f - fc| * (2 / bw)) := by
  simp only [linTriWeight, guard_real, ofNat_real, absA_real, Nat.cast_ofNat, Nat.cast_one]

/-- a sample exactly on the edge of the triangular window is reached and has the weight 0 (the premise of
`zero_where_no_weight` is met by real grids: `f = 7.5, 8.0`, `fc = 7.75`, `b = 0.5`) -/
theorem linTri_edge_weight_zero : linTriWeight (0.5 : ℝ) 7.5 7.75 = some 0 ∧ linTriWeight (0.5 : ℝ) 8.0 7.75 = some 0 := by
  constructor <;> rw [linTri_is_hat] <;> norm_num [abs_of_nonneg, abs_of_neg]

theorem pow10A_pos (a : ℝ) : 0 < pow10A a := Real.exp_pos _

theorem pow10A_le_iff {a r : ℝ} (hr : 0 < r) : pow10A a ≤ r ↔ a ≤ log10A r := by
  simp only [pow10A, log10A, exp_real, log_real, ofNat_real, Nat.cast_ofNat]
  rw [← Real.le_log_iff_exp_le hr, le_div_iff₀ (Real.log_pos (by norm_num))]

theorem le_pow10A_iff {a r : ℝ} (hr : 0 < r) : r ≤ pow10A a ↔ log10A r ≤ a := by
  simp only [pow10A, log10A, exp_real, log_real, ofNat_real, Nat.cast_ofNat]
  rw [← Real.log_le_iff_le_exp hr, div_le_iff₀ (Real.log_pos (by norm_num))]

theorem hat_nonneg {bw u : ℝ} (hbw : 0 < bw) (h : |u| ≤ bw / 2) : 0 ≤ 1 - |u| * (2 / bw) := by
  rw [sub_nonneg, ← le_div_iff₀ (by positivity), one_div_div]; exact h

/-- log-triangular window: the hat `1 − |log10A (f/fc)|·2/b` on `pow10A (−b/2) ≤ f/fc ≤ pow10A (b/2)` -/
theorem logTri_is_hat (bw f fc : ℝ) :
    logTriWeight bw f fc =
      if f < 1e-6 ∨ f / fc < pow10A (-(bw / 2)) ∨ pow10A (bw / 2) < f / fc then none
      else some (1 - |log10A (f / fc)| * (2 / bw)) := by
  simp only [logTriWeight, guard_real, ofNat_real, absA_real, Nat.cast_ofNat, Nat.cast_one]

/-- log-triangular window is non-negative on its support: `10^(−b/2) ≤ f/fc ≤ 10^(b/2)` forces
`|log₁₀(f/fc)| ≤ b/2`. -/
theorem logTri_nonneg (bw f fc w : ℝ) (hbw : 0 < bw) (h : logTriWeight bw f fc = some w) : 0 ≤ w := by
  simp only [logTri_is_hat, Option.ite_none_left_eq_some, not_or, not_lt, Option.some.injEq] at h
  obtain ⟨⟨_, hlo, hhi⟩, rfl⟩ := h
  have hr : 0 < f / fc := (pow10A_pos _).trans_le hlo
  exact hat_nonneg hbw (abs_le.mpr ⟨(pow10A_le_iff hr).mp hlo, (le_pow10A_iff hr).mp hhi⟩)

theorem linTri_nonneg (bw f fc w : ℝ) (hbw : 0 < bw) (h : linTriWeight bw f fc = some w) : 0 ≤ w := by
  simp only [linTri_is_hat, Option.ite_none_left_eq_some, not_or, not_lt, Option.some.injEq] at h
  obtain ⟨⟨_, hc⟩, rfl⟩ := h
  exact hat_nonneg hbw hc

theorem logRect_nonneg (bw f fc w : ℝ) (h : logRectWeight bw f fc = some w) : 0 ≤ w := by
  simp only [logRect_is_indicator, Option.ite_none_left_eq_some, Option.some.injEq] at h
  exact h.2 ▸ zero_le_one

theorem linRect_nonneg (bw f fc w : ℝ) (h : linRectWeight bw f fc = some w) : 0 ≤ w := by
  simp only [linRect_is_indicator, Option.ite_none_left_eq_some, Option.some.injEq] at h
  exact h.2 ▸ zero_le_one

theorem sgCoeff_real (m i : Nat) : (sgCoeff m i : ℝ) = (3 * (m : ℝ) * m - 7 - 20 * ((i : ℝ) * i)) / 4 := by
  simp only [sgCoeff, lit_real, smoothConsts, ofNat_real, pow_zero, div_one, Nat.cast_ofNat]

theorem sgNorm_real (m : Nat) : (sgNorm m : ℝ) = (m : ℝ) * ((m : ℝ) * m - 4) / 3 := by
  simp only [sgNorm, lit_real, smoothConsts, ofNat_real, pow_zero, div_one, Nat.cast_ofNat]

/-- `m²` is odd, so `m² ≠ 4` -/
theorem sgNorm_odd_ne_zero (k : ℕ) : (sgNorm (2 * k + 1) : ℝ) ≠ 0 := by
  rw [sgNorm_real, div_ne_zero_iff, mul_ne_zero_iff, sub_ne_zero]
  refine ⟨⟨by positivity, ?_⟩, three_ne_zero⟩
  norm_cast
  exact fun h => absurd (h ▸ (odd_two_mul_add_one k).mul (odd_two_mul_add_one k) : Odd 4) (by decide)

theorem sum_sq (k : ℕ) : ((List.range k).map (fun r : ℕ => ((r : ℝ) + 1) ^ 2)).sum = (k : ℝ) * (k + 1) * (2 * k + 1) / 6 := by
  induction k with
  | zero => simp
  | succ n ih => rw [List.sum_range_succ, ih, Nat.cast_succ]; ring

theorem sum_four (k : ℕ) :
    ((List.range k).map (fun r : ℕ => ((r : ℝ) + 1) ^ 4)).sum = (k : ℝ) * (k + 1) * (2 * k + 1) * (3 * k ^ 2 + 3 * k - 1) / 30 := by
  induction k with
  | zero => simp
  | succ n ih => rw [List.sum_range_succ, ih, Nat.cast_succ]; ring

theorem sgCoeff_succ (k r : ℕ) :
    (sgCoeff (2 * k + 1) (r + 1) : ℝ) = (3 * (k : ℝ) ^ 2 + 3 * k - 1) + (-5) * ((r : ℝ) + 1) ^ 2 := by
  rw [sgCoeff_real]; push_cast; ring

/-- zeroth moment of the coefficients of the window `m = 2k+1`: `c₀ + 2 Σ_{r=1..k} c_r = N` -/
theorem sg_m0 (k : ℕ) :
    (sgCoeff (2 * k + 1) 0 : ℝ) + 2 * ((List.range k).map (fun r => (sgCoeff (2 * k + 1) (r + 1) : ℝ))).sum
      = sgNorm (2 * k + 1) := by
  simp only [sgCoeff_succ, List.sum_map_add, List.sum_map_mul_left, sum_sq, List.map_const', List.sum_replicate,
    List.length_range, nsmul_eq_mul, sgCoeff_real, sgNorm_real]
  push_cast
  ring

/-- their second moment vanishes: `Σ_{r=1..k} c_r r² = 0` -/
theorem sg_m2 (k : ℕ) :
    ((List.range k).map (fun r => (sgCoeff (2 * k + 1) (r + 1) : ℝ) * ((r : ℝ) + 1) ^ 2)).sum = 0 := by
  simp only [sgCoeff_succ, add_mul, mul_assoc, ← pow_add, List.sum_map_add, List.sum_map_mul_left, sum_sq, sum_four]
  ring

theorem sgAt_eq (m : ℕ) (row : List ℝ) (idx : Int) :
    sgAt m row idx =
      if idx < ((m - 1) / 2 + 1 : ℕ) ∨ (row.length : Int) < idx + ((m - 1) / 2 + 1 : ℕ) then 0
      else ((sgCoeff m 0 : ℝ) * row.getD idx.toNat 0 + ((List.range ((m - 1) / 2)).map fun r =>
        (sgCoeff m (r + 1) : ℝ) * (row.getD (idx.toNat + (r + 1)) 0 + row.getD (idx.toNat - (r + 1)) 0)).sum)
        / sgNorm m := by
  simp only [sgAt, foldl_add_eq, ofNat_real, Nat.cast_zero]

/-- **The operator returns the centre sample of every row whose symmetric second differences around `i` are
`r²·D`** -- which is what makes it exact on cubics: moments 0 and 2 of the coefficients are `N` and `0`, the odd
moments vanish by symmetry of the window. -/
theorem sgAt_of_second_diff (k : ℕ) (row : List ℝ) (i : ℕ) (hlo : k + 1 ≤ i) (hhi : i + (k + 1) ≤ row.length)
    (D : ℝ) (h : ∀ r < k, row.getD (i + (r + 1)) 0 + row.getD (i - (r + 1)) 0 = 2 * row.getD i 0 + ((r : ℝ) + 1) ^ 2 * D) :
    sgAt (2 * k + 1) row (i : Int) = row.getD i 0 := by
  have hside : ∀ r ∈ List.range k, (sgCoeff (2 * k + 1) (r + 1) : ℝ) *
        (row.getD (i + (r + 1)) 0 + row.getD (i - (r + 1)) 0)
      = (2 * row.getD i 0) * (sgCoeff (2 * k + 1) (r + 1) : ℝ) +
          D * ((sgCoeff (2 * k + 1) (r + 1) : ℝ) * ((r : ℝ) + 1) ^ 2) :=
    fun r hr => by rw [h r (List.mem_range.mp hr)]; ring
  rw [sgAt_eq, (by omega : (2 * k + 1 - 1) / 2 = k), if_neg (by omega), Int.toNat_natCast, List.map_congr_left hside,
    List.sum_map_add, List.sum_map_mul_left, List.sum_map_mul_left, sg_m2, div_eq_iff (sgNorm_odd_ne_zero k)]
  linear_combination row.getD i 0 * sg_m0 k

theorem getD_map_range (n : ℕ) (f : ℕ → ℝ) (j : ℕ) (hj : j < n) : ((List.range n).map f).getD j 0 = f j := by
  simp [List.getD, hj]

/-- **Savitzky–Golay reproduces cubic polynomials**: on a uniform grid (polynomial in the sample index), for an odd
window `m = 2k+1 ≥ 3` and an index at which the operator is defined, the smoothed value is the polynomial's value
at the centre. -/
theorem sg_reproduces_cubic (k : ℕ) (hk : 1 ≤ k) (a b c d : ℝ) (n i : ℕ) (hlo : k + 1 ≤ i) (hhi : i + (k + 1) ≤ n) :
    sgAt (2 * k + 1) ((List.range n).map (fun j : ℕ => a * (j : ℝ) ^ 3 + b * (j : ℝ) ^ 2 + c * j + d)) (i : Int)
      = a * (i : ℝ) ^ 3 + b * (i : ℝ) ^ 2 + c * i + d := by
  rw [sgAt_of_second_diff k _ i hlo (by simpa using hhi) (6 * a * i + 2 * b), getD_map_range n _ i (by omega)]
  intro r hr
  rw [getD_map_range n _ _ (by omega), getD_map_range n _ _ (by omega), getD_map_range n _ _ (by omega),
    Nat.cast_sub (by omega)]
  push_cast
  ring

example : linRectWeight (1 : ℝ) 2 2.25 = some 1 := by rw [linRect_is_indicator]; norm_num [abs_of_neg]
example : (sgCoeff 5 0 : ℝ) + 2 * ((sgCoeff 5 1 : ℝ) + sgCoeff 5 2) = sgNorm 5 := by
  simpa [List.range_succ] using sg_m0 2

end HV.C02
