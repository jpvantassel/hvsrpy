-- Root of the `HvsrVerif` library: models, proofs, property theorems and bridges.
import HvsrVerif.Scalar
import HvsrVerif.Proto
import HvsrVerif.Model.Peaks
import HvsrVerif.Model.Sesame
import HvsrVerif.Model.Stats
import HvsrVerif.Model.HvState
import HvsrVerif.Model.Fdwra
import HvsrVerif.Model.HvAz
import HvsrVerif.Model.ObjectIO
import HvsrVerif.Model.Smoothing
import HvsrVerif.Model.Taper
import HvsrVerif.Model.DFT
import HvsrVerif.Model.Combine
import HvsrVerif.Model.Rows
import HvsrVerif.Model.Process
import HvsrVerif.Model.PsdPre
import HvsrVerif.Model.TimeRej
import HvsrVerif.Model.Effects
import HvsrVerif.Model.Cli
import HvsrVerif.Model.Spatial
import HvsrVerif.Model.Split
import HvsrVerif.Model.Rec
import HvsrVerif.Model.Settings
import HvsrVerif.Model.Readers
import HvsrVerif.Model.Plots
import HvsrVerif.Generated.Tables
import HvsrVerif.PyPrim
import HvsrVerif.Generated.PyCombine
import HvsrVerif.Generated.PyAzimuth
import HvsrVerif.Generated.PyOrient
import HvsrVerif.Generated.PyWindows
import HvsrVerif.Generated.PyStats
import HvsrVerif.Generated.PySesame
import HvsrVerif.Generated.PyFdwra
import HvsrVerif.Generated.PyPsd
import HvsrVerif.Generated.PyNyquist
import HvsrVerif.Generated.PySpatial
import HvsrVerif.Generated.PySplit
import HvsrVerif.Generated.PyReaders
import HvsrVerif.Generated.PyPeaks
import HvsrVerif.Generated.PyTrim
import HvsrVerif.Generated.PyObjectIO
import HvsrVerif.Generated.PyTimeRej
import HvsrVerif.Generated.PyFft
import HvsrVerif.Generated.PyWeights
import HvsrVerif.PyVec
import HvsrVerif.Generated.PyVec
import HvsrVerif.Generated.PyVecDrv
import HvsrVerif.Proofs.ExceptLemmas
import HvsrVerif.Proofs.RealInst
import HvsrVerif.Proofs.Degrees
import HvsrVerif.Proofs.ListLemmas
import HvsrVerif.Proofs.HvStateLemmas
import HvsrVerif.Proofs.ProcessLemmas
import HvsrVerif.Proofs.StatsLemmas
import HvsrVerif.Proofs.DFTSum
import HvsrVerif.Proofs.DFTLemmas
import HvsrVerif.Proofs.CliLemmas
import HvsrVerif.Proofs.SpatialLemmas
import HvsrVerif.Proofs.Rec
import HvsrVerif.Proofs.Split
import HvsrVerif.Proofs.Settings
import HvsrVerif.Proofs.Readers
import HvsrVerif.Proofs.PlotsLemmas
import HvsrVerif.Proofs.ScaleLemmas
import HvsrVerif.Proofs.Percentile
import HvsrVerif.Props.C01
import HvsrVerif.Props.C01Laws
import HvsrVerif.Props.C01Diffuse
import HvsrVerif.Props.C02
import HvsrVerif.Props.C03
import HvsrVerif.Props.C04
import HvsrVerif.Props.C04Rot
import HvsrVerif.Props.C05
import HvsrVerif.Props.C05Cov
import HvsrVerif.Props.C06
import HvsrVerif.Props.C06Order
import HvsrVerif.Props.C06Spec
import HvsrVerif.Props.C07
import HvsrVerif.Props.C08
import HvsrVerif.Props.C09
import HvsrVerif.Props.C10
import HvsrVerif.Props.C11
import HvsrVerif.Props.C11Laws
import HvsrVerif.Props.C11Order
import HvsrVerif.Props.C11Cov
import HvsrVerif.Props.C12
import HvsrVerif.Props.C13
import HvsrVerif.Props.C13Norm
import HvsrVerif.Props.C14
import HvsrVerif.Props.C15
import HvsrVerif.Props.C16
import HvsrVerif.Props.C17
import HvsrVerif.Props.C17Inv
import HvsrVerif.Props.C17Deriv
import HvsrVerif.Props.C17Odd
import HvsrVerif.Props.C18
import HvsrVerif.Props.C19
import HvsrVerif.Props.C20
import HvsrVerif.Bridge.TableEq
import HvsrVerif.Bridge.C01
import HvsrVerif.Bridge.C02
import HvsrVerif.Bridge.C03
import HvsrVerif.Bridge.C05
import HvsrVerif.Bridge.C06
import HvsrVerif.Bridge.C07
import HvsrVerif.Bridge.C12
import HvsrVerif.Bridge.C13
import HvsrVerif.Bridge.C15
import HvsrVerif.Bridge.C16
import HvsrVerif.Bridge.PyCommon
import HvsrVerif.Bridge.PyCombine
import HvsrVerif.Bridge.PyAzimuth
import HvsrVerif.Bridge.PyOrient
import HvsrVerif.Bridge.PyWindows
import HvsrVerif.Bridge.PyStats
import HvsrVerif.Bridge.PySesame
import HvsrVerif.Bridge.PyFdwra
import HvsrVerif.Bridge.PyPsd
import HvsrVerif.Bridge.PyNyquist
import HvsrVerif.Bridge.PySpatial
import HvsrVerif.Bridge.PySplit
import HvsrVerif.Bridge.PyReaders
import HvsrVerif.Bridge.PyPeaks
import HvsrVerif.Bridge.PyTrim
import HvsrVerif.Bridge.PyObjectIO
import HvsrVerif.Bridge.PyTimeRej
import HvsrVerif.Bridge.PyFft
import HvsrVerif.Bridge.PyWeights
import HvsrVerif.Bridge.PyVec
import HvsrVerif.Bridge.PyVecSpatial
import HvsrVerif.Bridge.PyVecBounds
